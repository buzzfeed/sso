import SsoSpec.Lemmas.Caches
import SsoSpec.Lemmas.Keys
import Generated.Facts

/-!
# C17 — group caches only repeat what the directory said, for the same question
-/
namespace Sso.Caches
open Sso.SfWrappers

/-! ### GroupCache (per-question cache in front of the provider) -/

/-- An answer served from the cache is an answer the directory gave **for the same key** — for every
history of questions, directory answers, failures and TTL purges. -/
theorem C17_served_answer_was_given (es : List GCEv) (k : CKey) (dir : DirReply) (a : Answer)
    (h : (gcStep (gcRun GC.init es) (.ask k dir)).2 = .hit a) : (k, a) ∈ (gcRun GC.init es).log :=
  gcRun_cache_subset_log GC.init es (List.nil_subset _) (GC.mem_of_lookup (gcStep_hit h))

/-- Directory errors are never cached: the state is unchanged and the caller gets the error. -/
theorem C17_errors_not_cached (s : GC) (k : CKey) (h : s.lookup k = none) :
    gcStep s (.ask k .err) = (s, .error) := by
  simp [gcStep, h]

/-- A miss asks the directory, returns its answer and stores it under exactly the asked key. -/
theorem C17_miss_stores_directory_answer (s : GC) (k : CKey) (a : Answer) (h : s.lookup k = none) :
    (gcStep s (.ask k (.ok a))).2 = .miss a ∧ (gcStep s (.ask k (.ok a))).1.lookup k = some a := by
  simp only [gcStep, h]
  simp [GC.lookup]

/-- A purge only forgets: afterwards the purged key misses and every other key answers as before. -/
theorem C17_purge_only_forgets (s : GC) (k k' : CKey) :
    (gcStep s (.purge k)).1.lookup k = none ∧ (k' ≠ k → (gcStep s (.purge k)).1.lookup k' = s.lookup k') :=
  ⟨(lookup_purge s k k).trans (if_pos rfl), fun hne => (lookup_purge s k k').trans (if_neg hne)⟩

/-- Keys: equal cache keys mean the same e-mail and — for non-empty, comma-free group names — the same
sorted group list; and the sorted list does not depend on the order the groups were given in. -/
theorem C17_cache_key_injective {α : Type} (comma : α) (g₁ g₂ : List (List α))
    (h₁ : ∀ g ∈ g₁, g ≠ [] ∧ comma ∉ g) (h₂ : ∀ g ∈ g₂, g ≠ [] ∧ comma ∉ g)
    (h : joinWith comma g₁ = joinWith comma g₂) : g₁ = g₂ :=
  joinWith_injective comma g₁ g₂ h₁ h₂ h

theorem C17_cache_key_order_insensitive {α : Type} (le : α → α → Prop) (hanti : ∀ a b, le a b → le b a → a = b)
    (sort : List α → List α) (hperm : ∀ l, (sort l).Perm l) (hsorted : ∀ l, (sort l).Pairwise le)
    (l₁ l₂ : List α) (h : l₁.Perm l₂) : sort l₁ = sort l₂ :=
  sort_perm_invariant le hanti sort hperm hsorted l₁ l₂ h

/-- the comma side condition is needed -/
theorem C17_cache_key_comma_collides :
    joinWith ',' ["a,b".toList] = joinWith ',' ["a".toList, "b".toList] := by decide

/-! ### FillCache (per-group member lists, filled in the background) -/

/-- `Update`'s second critical section: success stores, not-found drops, any other error keeps; the
return value is true exactly on success; and the in-flight mark is released in all three cases. -/
theorem C17_update_store_keep_delete (s : FC) (g : String) (m : Members) :
    (applyFill s g (.ok m)).1.cache g = some m ∧ (applyFill s g (.ok m)).2 = true ∧
    (applyFill s g .notFound).1.cache g = none ∧ (applyFill s g .notFound).2 = false ∧
    (applyFill s g .err).1.cache g = s.cache g ∧ (applyFill s g .err).2 = false ∧
    (∀ r g', g' ≠ g → (applyFill s g r).1.cache g' = s.cache g') ∧
    (∀ r, (applyFill s g r).1.inflight g = false) := by
  have own (r : FillResult) : (applyFill s g r).1.cache g = r.apply (s.cache g) :=
    (applyFill_cache s g r g).trans (if_pos rfl)
  exact ⟨own _, rfl, own _, rfl, own _, rfl, fun r g' hne => (applyFill_cache s g r g').trans (if_neg hne),
    fun r => (congrArg (·.inflight g) (applyFill_fst s g r)).trans (if_pos rfl)⟩

/-- In every reachable state the cached list of a group is the result of the most recently completed
successful fill of that group, with no not-found completed since (failed fills in between keep it). -/
theorem C17_cache_is_latest_successful_fill (s : FC) (hr : s.Reachable) (g : String) :
    s.cache g = latest s.fills g :=
  (fc_reachable_inv s hr).cache g

/-- At most one fill per group runs at a time, whoever started it (a caller of `Update` or a refresh loop). -/
theorem C17_single_fill_per_group (s : FC) (hr : s.Reachable) (g : String) :
    (∀ t₁ t₂, s.thr t₁ = .filling g → s.thr t₂ = .filling g → t₁ = t₂) ∧
    (∀ l₁ l₂, s.lthr l₁ = .filling g → s.lthr l₂ = .filling g → l₁ = l₂) ∧
    (∀ t l, s.thr t = .filling g → s.lthr l ≠ .filling g) := by
  have m := (fc_reachable_inv s hr).fill
  exact ⟨fun _ _ h₁ h₂ => Sum.inl.inj (m.alone (fillOf_inl h₁) (fillOf_inl h₂)),
    fun _ _ h₁ h₂ => Sum.inr.inj (m.alone (fillOf_inr h₁) (fillOf_inr h₂)),
    fun _ _ h₁ h₂ => nomatch m.alone (fillOf_inl h₁) (fillOf_inr h₂)⟩

/-- A second `Update` of a group that is being filled returns false without calling the fill function. -/
theorem C17_second_update_refused (s : FC) (hr : s.Reachable) (t t' : Nat) (g : String)
    (h : s.thr t = .filling g ∨ ∃ l, s.lthr l = .filling g) (ht' : s.thr t' = .none) :
    fcStep s (.updBegin t' g) = (s, .busy) := by
  have m := (fc_reachable_inv s hr).fill
  have : s.inflight g = true := h.elim (fun h => m.held (fillOf_inl h)) fun ⟨_, h⟩ => m.held (fillOf_inr h)
  simp [fcStep, ht', this]

/-- At most one live refresh loop per group; `RefreshLoop` returns true exactly when it registered one. -/
theorem C17_single_loop_per_group (s : FC) (hr : s.Reachable) (g : String) :
    (∀ l₁ l₂, (s.lthr l₁ = .idle g ∨ s.lthr l₁ = .filling g) → (s.lthr l₂ = .idle g ∨ s.lthr l₂ = .filling g) → l₁ = l₂) ∧
    ((fcStep s (.loopStart g)).2 = .loopRefused ↔ s.loops g = true) ∧
    ((∃ l, s.lthr l = .idle g ∨ s.lthr l = .filling g) → (fcStep s (.loopStart g)).2 = .loopRefused) := by
  have m := (fc_reachable_inv s hr).loop
  have refused : (fcStep s (.loopStart g)).2 = .loopRefused ↔ s.loops g = true := by
    dsimp only [fcStep]; split
    · next hl => exact iff_of_true rfl hl
    · next hl => exact iff_of_false nofun hl
  exact ⟨fun _ _ h₁ h₂ => m.alone (LPhase.group_of_live h₁) (LPhase.group_of_live h₂), refused,
    fun ⟨_, hl⟩ => refused.2 (m.held (LPhase.group_of_live hl))⟩

/-- After `Stop`, an idle loop goroutine can exit, and exiting deregisters it. -/
theorem C17_stopped_loop_exits (s : FC) (l : Nat) (g : String) (hl : s.lthr l = .idle g) (hs : s.stopped = true) :
    (fcStep s (.loopExit l)).2 = .exited ∧ (fcStep s (.loopExit l)).1.loops g = false ∧
    (fcStep s (.loopExit l)).1.lthr l = .dead := by
  simp [fcStep, hl, hs, updS, updN]

/-- Google: a partly cached question is answered by the directory for the **whole** question; a fully
cached one by filtering the cached member sets; a refresh loop is requested for exactly the uncached groups. -/
theorem C17_google_partly_cached_falls_back (cache : String → Option Members) (asked : List String)
    (email : String) (dir : Option (List String)) (hne : asked ≠ []) :
    ((∃ g ∈ asked, cache g = none) → (googleMembership cache asked email dir).1 = dir) ∧
    ((∀ g ∈ asked, (cache g).isSome) → (googleMembership cache asked email dir).1 =
        some (asked.filter (cachedMember cache email))) ∧
    (googleMembership cache asked email dir).2 = asked.filter (fun g => (cache g).isNone) := by
  rw [googleMembership_eq]
  refine ⟨fun h => by rw [if_neg (uncached_ne_nil.2 h)], fun h => by rw [if_pos (uncached_eq_nil.2 h)], ?_⟩
  split
  · next h => exact h.symm
  · rfl

/-- Cognito, full strength ("a partly cached question falls back to the directory's answer") is **refuted**:
members found in the (possibly stale) cache before the fallback are kept in the answer. -/
theorem C17_cognito_partly_cached_refuted :
    ¬ ∀ (cache : String → Option Members) (asked : List String) (user : String) (ds : List String),
        (∃ g ∈ asked, cache g = none) →
        (cognitoMembership cache asked user (some ds)).1 = some (asked.filter fun g => ds.contains g) := by
  intro h
  exact absurd (h (fun g => if g = "g1" then some ["u"] else none) ["g1", "g2"] "u" ["g2"] ⟨"g2", by decide, rfl⟩)
    (by decide)

/-- What does hold for Cognito: with nothing cached the answer is the directory's; fully cached is the
filter; and partly cached contains the directory's answer (it can only add cached matches). -/
theorem C17_partial_cognito (cache : String → Option Members) (asked : List String) (user : String)
    (ds : List String) (hne : asked ≠ []) :
    ((∀ g ∈ asked, cache g = none) →
        (cognitoMembership cache asked user (some ds)).1 = some (asked.filter fun g => ds.contains g)) ∧
    ((∃ g ∈ asked, cache g = none) → ∃ r, (cognitoMembership cache asked user (some ds)).1 = some r ∧
        ∀ g ∈ asked, ds.contains g → g ∈ r) := by
  rw [cognitoMembership_eq]
  constructor
  · intro hall
    obtain ⟨g, hg⟩ := List.exists_mem_of_ne_nil _ hne
    have : asked.filter (cachedMember cache user) = [] :=
      List.filter_eq_nil_iff.2 fun g hg => by simp [cachedMember, hall g hg]
    rw [if_neg (uncached_ne_nil.2 ⟨g, hg, hall g hg⟩), this]; rfl
  · intro h
    rw [if_neg (uncached_ne_nil.2 h)]
    exact ⟨_, rfl, fun g hg hd => List.mem_append_right _ (List.mem_filter.2 ⟨hg, hd⟩)⟩

def exFC : List FCEv :=
  [.loopStart "g", .loopUpdBegin 0, .updBegin 1 "g", .loopStart "g", .loopUpdEnd 0 (.ok ["u"]), .updBegin 1 "g",
   .updEnd 1 .err, .get "g", .stop, .loopExit 0, .updBegin 2 "g", .updEnd 2 .notFound, .get "g"]

example : (fcRun FC.init exFC).cache "g" = none := rfl
example : (fcRun FC.init (exFC.take 8)).cache "g" = some ["u"] := rfl
example : (fcRun FC.init exFC).Reachable := ⟨exFC, rfl⟩
example : (fcStep (fcRun FC.init (exFC.take 2)) (.updBegin 1 "g")).2 = .busy := rfl
example : (fcStep (fcRun FC.init (exFC.take 3)) (.loopStart "g")).2 = .loopRefused := rfl

theorem C17_skeleton_Update : Sso.Generated.skel_fillcache_Update =
    ["call:Lock", "if{", "call:Unlock", "return", "}", "store:c.inflight[]", "call:Unlock", "call:fillFunc", "call:Lock", "defer:Unlock", "call:delete", "if{", "store:c.cache[]", "return", "}", "if{", "call:delete", "}", "return"] := rfl

theorem C17_skeleton_RefreshLoop : Sso.Generated.skel_fillcache_RefreshLoop =
    ["if{", "}", "call:Float64", "call:float64", "call:Duration", "call:Sleep", "call:Lock", "if{", "call:Unlock", "return", "}", "store:c.refreshLoopGroups[]", "call:Unlock", "call:NewTicker", "go{", "defer{", "call:Lock", "call:delete", "call:Unlock", "}", "call:Update", "if{", "}", "for{", "select{", "comm{", "return", "}", "comm{", "call:Update", "if{", "}", "}", "}", "}", "}", "return"] := rfl

theorem C17_skeleton_GroupCache : Sso.Generated.skel_groupcache_ValidateGroupMembership =
    ["call:Strings", "call:Join", "call:Get", "if{", "return", "}", "call:ValidateGroupMembership", "if{", "return", "}", "call:Set", "return"] := rfl

theorem C17_skeleton_membership :
    Sso.Generated.skel_fillcache_Get = ["call:RLock", "defer:RUnlock", "return"] ∧
    Sso.Generated.skel_google_ValidateGroupMembership =
      ["call:len", "if{", "return", "}", "range{", "call:Get", "if{", "call:RefreshLoop", "if{", "}", "}", "if{", "call:append", "}", "}", "if{", "call:CheckMemberships", "return", "}", "return"] ∧
    Sso.Generated.skel_cognito_ValidateGroupMembership =
      ["call:len", "if{", "return", "}", "call:GetUserProfile", "if{", "return", "}", "if{", "call:New", "return", "}", "range{", "call:Get", "if{", "call:RefreshLoop", "if{", "}", "}", "if{", "call:append", "}", "}", "if{", "call:CheckMemberships", "if{", "return", "}", "range{", "range{", "if{", "call:append", "break", "}", "}", "}", "}", "return"] := ⟨rfl, rfl, rfl⟩

/-- Tie (T1): the providers' fill functions hand the directory's error back **unwrapped** (`return nil, err`), so the fill cache's
`err == ErrGroupNotFound` test sees the sentinel and forgets a deleted group. -/
theorem C17_skeleton_fill :
    Sso.Generated.skel_google_PopulateMembers = ["call:ListMemberships", "if{", "return", "}", "range{", "store:memberSet[]", "}", "return"] ∧
    Sso.Generated.skel_cognito_PopulateMembers = ["call:ListMemberships", "if{", "return", "}", "range{", "store:memberSet[]", "}", "return"] := ⟨rfl, rfl⟩

/-- Tie (T1): helpers, stores and second callers on this property's path (localcache_Get, localcache_Set, localcache_Purge, okta_ValidateGroupMembership). -/
theorem C17_wiring2 :
    Sso.Generated.skel_localcache_Get =
      ["call:get", "if{", "return", "}", "return"] ∧
    Sso.Generated.skel_localcache_Set =
      ["call:set"] ∧
    Sso.Generated.skel_localcache_Purge =
      ["call:Delete"] ∧
    Sso.Generated.skel_okta_ValidateGroupMembership =
      ["if{", "return", "}", "call:len", "if{", "return", "}", "call:GetUserProfile", "if{", "return", "}", "call:len", "if{", "call:New", "return", "}", "range{", "range{", "if{", "call:append", "break", "}", "}", "}", "return"] := ⟨rfl, rfl, rfl, rfl⟩

/-- Tie (T1): the Google directory client's `listMemberships` — the fill function's source. An error while listing a nested group
fails the whole listing (`return`), so that a partial member list is never handed to the cache as a successful refresh. The
directory client cannot be driven offline; this skeleton is the only tie for it. -/
theorem C17_skeleton_listMemberships : Sso.Generated.skel_gadmin_listMemberships =
    ["for{", "call:Now", "call:List", "call:MaxResults", "if{", "call:PageToken", "}", "func{", "call:Do", "return", "}", "call:Call", "if{", "typeswitch{", "case{", "switch{", "case 400{", "call:Error", "if{", "}", "}", "case 404{", "}", "case 429{", "}", "case 503{", "}", "}", "}", "case{", "}", "case{", "}", "}", "return", "}", "range{", "switch{", "case \"USER\"{", "call:append", "}", "case \"GROUP\"{", "if{", "continue", "}", "call:listMemberships", "if{", "return", "}", "call:append", "}", "default{", "call:Errorf", "continue", "}", "}", "}", "if{", "break", "}", "}", "return"] := rfl

/-- Tie (T1): the constructors and option functions that hand configured values to the components this property
speaks about (auth_newProvider). -/
theorem C17_wiring3 :
    Sso.Generated.skel_auth_newProvider =
      ["switch{", "case providers.GoogleProviderName{", "call:NewGoogleProvider", "if{", "return", "}", "call:NewFillCache", "store:googleProvider.GroupsCache", "call:NewSingleFlightProvider", "}", "case providers.OktaProviderName{", "call:NewOktaProvider", "if{", "return", "}", "call:NewGroupCache", "call:NewSingleFlightProvider", "}", "case providers.AmazonCognitoProviderName{", "call:NewAmazonCognitoProvider", "if{", "return", "}", "call:NewFillCache", "store:amazonCognitoProvider.GroupsCache", "call:NewSingleFlightProvider", "}", "case \"test\"{", "call:NewTestProvider", "return", "}", "default{", "call:Errorf", "return", "}", "}", "return"] := rfl

end Sso.Caches
