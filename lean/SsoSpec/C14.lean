import Generated.Facts
import SsoModel.Config

/-!
# C14 — upstream configuration resolves fail-closed and field by field
All theorems hold for every behaviour of `url.Parse` / `regexp.Compile` (the oracles).
-/
namespace Sso.Config

/-- One step of a validation cascade `if p then some e else …`. -/
theorem ifE_eq_none {p : Prop} [Decidable p] {e : LoadErr} {x : Option LoadErr} :
    (if p then some e else x) = none ↔ ¬p ∧ x = none := by
  split <;> simp [*]

theorem orE_eq_none {a b : Option LoadErr} : orE a b = none ↔ a = none ∧ b = none := by
  cases a <;> simp [orE]

theorem firstE_map_eq_none {α} {f : α → Option LoadErr} {l : List α} :
    firstE (l.map f) = none ↔ ∀ p ∈ l, f p = none := by
  induction l with
  | nil => simp [firstE]
  | cons a t ih => cases h : f a <;> simp [firstE, ih, h]

theorem checkRoute_eq_none {svc : String} {r : RouteCfg} :
    checkRoute svc r = none ↔ svc ≠ "" ∧ r.from' ≠ "" ∧ r.to ≠ "" := by
  simp only [checkRoute, ifE_eq_none, and_true, ne_eq]

theorem checkType_eq_none {O : Oracles} {r : RouteCfg} :
    checkType O r = none ↔ validType r.type = true ∧ (r.type = "rewrite" → O.okRegex r.from' = true) ∧
      (r.type ≠ "rewrite" → O.okUrl r.from' = true ∧ O.okUrl r.to = true) := by
  unfold checkType validType
  by_cases h : r.type = "rewrite"
  · simp [h]
  · by_cases h' : r.type = "" ∨ r.type = "simple" <;> simp [h, h', ifE_eq_none]

theorem checkSkip_eq_none {O : Oracles} {d : Opts} {r : RouteCfg} :
    checkSkip O d r = none ↔ (parseOptions d r).skipAuthRegex.all O.okRegex = true := by
  unfold checkSkip; split <;> simp [*]

theorem checkRule_eq_none {d : Opts} {r : RouteCfg} :
    checkRule d r = none ↔
      ¬ ((parseOptions d r).domains = [] ∧ (parseOptions d r).addrs = [] ∧ (parseOptions d r).groups = []) := by
  simp only [checkRule, ifE_eq_none, and_true]

theorem loadErr_eq_none {O : Oracles} {all : List (String × RouteCfg)} {defaults : Opts} {keys : List (String × String)} :
    loadErr O all defaults keys = none ↔ ∀ p ∈ all,
      checkRoute p.1 p.2 = none ∧ checkType O p.2 = none ∧ checkSkip O defaults p.2 = none ∧
      checkHmac O keys p.1 = none ∧ checkRule defaults p.2 = none := by
  simp only [loadErr, orE_eq_none, firstE_map_eq_none, ← forall_and]

theorem load_eq_ok {O : Oracles} {services : List Service} {cluster : String} {defaults : Opts}
    {keys : List (String × String)} {ups : List Resolved} :
    load O services cluster defaults keys = .ok ups ↔
      loadErr O (candidates services cluster) defaults keys = none ∧
      ups = (candidates services cluster).map (resolve defaults keys) := by
  simp only [load]
  cases loadErr O (candidates services cluster) defaults keys with
  | none => simp only [Except.ok.injEq, true_and, eq_comm]
  | some e => simp only [reduceCtorEq, false_and]

/-- Fail-closed: whenever loading succeeds, every resulting upstream has a service name, `from`, `to`, a known
route type whose `from`/`to` parsed (or compiled), every skip-auth pattern compiled, and **at least one allow
rule** — an upstream open to everyone never results from omission. -/
theorem C14_load_fail_closed (O : Oracles) (services : List Service) (cluster : String) (defaults : Opts)
    (keys : List (String × String)) (ups : List Resolved) (h : load O services cluster defaults keys = .ok ups) :
    ∀ u ∈ ups, u.service ≠ "" ∧ u.from' ≠ "" ∧ u.to ≠ "" ∧ validType u.type = true ∧
      (u.type = "rewrite" → O.okRegex u.from' = true) ∧
      (u.type ≠ "rewrite" → O.okUrl u.from' = true ∧ O.okUrl u.to = true) ∧
      u.opts.skipAuthRegex.all O.okRegex = true ∧
      ¬ (u.opts.domains = [] ∧ u.opts.addrs = [] ∧ u.opts.groups = []) := by
  obtain ⟨hnone, rfl⟩ := load_eq_ok.1 h
  intro u hu
  obtain ⟨p, hp, rfl⟩ := List.mem_map.1 hu
  obtain ⟨hroute, htype, hskip, -, hrule⟩ := loadErr_eq_none.1 hnone p hp
  obtain ⟨hsvc, hfrom, hto⟩ := checkRoute_eq_none.1 hroute
  obtain ⟨hvalid, hrewrite, hsimple⟩ := checkType_eq_none.1 htype
  exact ⟨hsvc, hfrom, hto, hvalid, hrewrite, hsimple, checkSkip_eq_none.1 hskip, checkRule_eq_none.1 hrule⟩

/-! A merged scalar or list field is `if src is zero then dst else src` by definition (`ovS`, `ovI`, `ovL`; `fillOpts` is
`ovOpts` the other way round), so in the field-by-field statements below the hypothesis decides the `if`. -/

/-- Merging into the zero value (`parseOptions` starts from `{}`) gives the source. -/
theorem ovL_nil (s : List String) : ovL [] s = s := by
  unfold ovL; split <;> simp [*]

/-- A cluster block that states no `options` keeps the default block's options in force, field by field. -/
theorem C14_partial_cluster_inherits (d s : Block) (h : s.route.options = none) :
    (ovBlock d s).route.options = d.route.options := by
  simp only [ovBlock, h]

/-- Route fields a cluster block does not state are inherited from the default block. -/
theorem C14_cluster_route_fields (d s : Block) :
    (s.route.from' = "" → (ovBlock d s).route.from' = d.route.from') ∧
    (s.route.to = "" → (ovBlock d s).route.to = d.route.to) ∧
    (s.route.from' ≠ "" → (ovBlock d s).route.from' = s.route.from') ∧
    (s.extraRoutes = [] → (ovBlock d s).extraRoutes = d.extraRoutes) :=
  ⟨fun h => if_pos h, fun h => if_pos h, fun h => if_neg h, fun h => if_pos h⟩

/-- Full strength ("a cluster block changes only the settings it states") is **refuted**: a cluster block
whose `options` states only a timeout drops the default block's `allowed_groups` and `skip_auth_regex`.
KNOWN FINDING `cluster-options-replace-default`. -/
theorem C14_cluster_inherits_refuted :
    ¬ ∀ (d s : Block) (od os : Opts), d.route.options = some od → s.route.options = some os → os.groups = [] →
        ∃ o, (ovBlock d s).route.options = some o ∧ o.groups = od.groups := by
  intro h
  obtain ⟨o, ho, hg⟩ := h { route := { options := some { groups := ["admins"], skipAuthRegex := ["^/health$"] } } }
    { route := { options := some { timeout := 5 } } } _ _ rfl rfl rfl
  cases ho
  cases hg

/-- An extra route that states no options gets its parent's options; one that states some keeps every list it
states and inherits every list it leaves empty (and every unset scalar). -/
theorem C14_extra_route_inherits (extra parent : RouteCfg) :
    (extra.options = none → (fillRoute extra parent).options = parent.options) ∧
    (∀ e p, extra.options = some e → parent.options = some p →
      ∃ o, (fillRoute extra parent).options = some o ∧
        o.groups = (if e.groups = [] then p.groups else e.groups) ∧
        o.domains = (if e.domains = [] then p.domains else e.domains) ∧
        o.addrs = (if e.addrs = [] then p.addrs else e.addrs) ∧
        o.skipAuthRegex = (if e.skipAuthRegex = [] then p.skipAuthRegex else e.skipAuthRegex) ∧
        o.providerSlug = (if e.providerSlug = "" then p.providerSlug else e.providerSlug) ∧
        o.timeout = (if e.timeout = 0 then p.timeout else e.timeout)) ∧
    (extra.from' ≠ "" → (fillRoute extra parent).from' = extra.from') ∧
    (extra.to = "" → (fillRoute extra parent).to = parent.to) := by
  refine ⟨fun h => ?_, fun e p he hp => ⟨fillOpts e p, ?_, rfl, rfl, rfl, rfl, rfl, rfl⟩,
    fun h => if_neg h, fun h => if_pos h⟩
  · simp only [fillRoute, h]
  · simp only [fillRoute, he, hp]

/-- Deployment defaults apply exactly where the route's own options leave a field empty. -/
theorem C14_defaults_fill_gaps (defaults : Opts) (r : RouteCfg) (o : Opts) (h : r.options = some o) :
    (parseOptions defaults r).groups = (if o.groups = [] then defaults.groups else o.groups) ∧
    (parseOptions defaults r).domains = (if o.domains = [] then defaults.domains else o.domains) ∧
    (parseOptions defaults r).addrs = (if o.addrs = [] then defaults.addrs else o.addrs) ∧
    (parseOptions defaults r).skipAuthRegex = (if o.skipAuthRegex = [] then defaults.skipAuthRegex else o.skipAuthRegex) := by
  simp only [parseOptions, h, ovOpts, ovL_nil]
  exact ⟨rfl, rfl, rfl, rfl⟩

def exDefault : Block :=
  { route := { from' := "app.x.io", to := "app.internal", options := some { groups := ["admins"], skipAuthRegex := ["^/health$"] } } }
def exProd : Block := { route := { options := some { timeout := 5 } } }

-- the open finding on a concrete document: in cluster "prod" the allowed_groups of the default block are gone …
example : (ovBlock exDefault exProd).route.options.map (·.groups) = some [] := by decide
-- … so the deployment default is all that is left
example : (parseOptions { domains := ["x.io"] } (ovBlock exDefault exProd).route).groups = [] := by decide
example : (parseOptions { domains := ["x.io"] } exDefault.route).groups = ["admins"] := by decide
-- no rule anywhere ⇒ refused
example : checkRule {} (ovBlock exDefault exProd).route = some .noAllowRule := by decide
example : checkRule {} exDefault.route = none := by decide

/-- Tie (T1): configuration decoding is **strict** — the `mapstructure.DecoderConfig` names a decode hook and a result and
nothing else (no `WeaklyTypedInput`: a boolean-looking environment value is never silently turned into "1"), `LoadConfig`
composes exactly the duration and comma-list hooks, and `parseEnvironment` splits each `SSO_CONFIG_…` entry at its *first*
`=` (`SplitN`). -/
theorem C14_config_decoding_strict :
    Sso.Generated.proxyDecoderConfig =
      ["DecodeHook,Result"] ∧
    Sso.Generated.skel_proxy_LoadConfig =
      ["call:DefaultProxyConfig", "call:NewConfig", "call:NewSource", "call:Load", "if{", "return", "}", "call:StringToTimeDurationHookFunc", "call:StringToSliceHookFunc", "call:ComposeDecodeHookFunc", "call:NewDecoder", "if{", "return", "}", "call:Map", "call:Decode", "if{", "return", "}", "return"] ∧
    Sso.Generated.skel_proxy_parseEnvironment =
      ["call:make", "call:len", "if{", "return", "}", "range{", "call:HasPrefix", "if{", "continue", "}", "call:SplitN", "call:TrimPrefix", "call:ToLower", "store:env[]", "}", "return"] := ⟨rfl, rfl, rfl⟩

/-- Tie (T1): the loader. -/
theorem C14_wiring :
    Sso.Generated.skel_cfg_loadServiceConfigs =
      ["call:resolveTemplates", "call:parseServiceConfigs", "if{", "return", "}", "call:make", "range{", "call:resolveUpstreamConfig", "if{", "return", "}", "if{", "call:append", "}", "}", "call:make", "range{", "call:len", "if{", "continue", "}", "range{", "call:resolveExtraRoute", "if{", "return", "}", "call:append", "}", "store:proxy.ExtraRoutes", "}", "call:append", "range{", "call:validateUpstreamConfig", "if{", "return", "}", "}", "range{", "switch{", "case simple,\"\"{", "call:simpleRoute", "if{", "return", "}", "store:proxy.Route", "}", "case rewrite{", "call:rewriteRoute", "if{", "return", "}", "store:proxy.Route", "}", "default{", "call:Sprintf", "return", "}", "}", "}", "range{", "call:parseOptionsConfig", "if{", "return", "}", "}", "range{", "call:Sprintf", "if{", "continue", "}", "call:generateHmacAuth", "if{", "call:Sprintf", "return", "}", "store:proxy.HMACAuth", "}", "return"] ∧
    Sso.Generated.skel_cfg_parseOptionsConfig =
      ["if{", "}", "call:Merge", "if{", "return", "}", "if{", "call:Merge", "if{", "return", "}", "}", "range{", "call:Compile", "if{", "return", "}", "call:append", "store:proxy.SkipAuthCompiledRegex", "}", "store:proxy.AllowedGroups", "store:proxy.AllowedEmailDomains", "store:proxy.AllowedEmailAddresses", "store:proxy.Timeout", "store:proxy.ResetDeadline", "store:proxy.FlushInterval", "store:proxy.HeaderOverrides", "store:proxy.InjectRequestHeaders", "store:proxy.TLSSkipVerify", "store:proxy.PreserveHost", "store:proxy.SkipRequestSigning", "store:proxy.CookieName", "store:proxy.ProviderSlug", "store:proxy.RouteConfig.Options", "return"] ∧
    Sso.Generated.skel_cfg_resolveUpstreamConfig =
      ["if{", "return", "}", "if{", "}", "if{", "}", "call:Merge", "if{", "return", "}", "call:cleanWhiteSpace", "store:dst.Service", "return"] ∧
    Sso.Generated.skel_cfg_resolveExtraRoute =
      ["call:Merge", "if{", "return", "}", "store:dst.ExtraRoutes", "return"] ∧
    Sso.Generated.skel_cfg_validateUpstreamConfig =
      ["if{", "return", "}", "if{", "return", "}", "if{", "return", "}", "return"] ∧
    Sso.Generated.skel_cfg_SetUpstreamConfigs =
      ["if{", "call:ReadFile", "if{", "call:Errorf", "return", "}", "call:Environ", "call:parseEnvironment", "if{", "}", "call:loadServiceConfigs", "store:uc.upstreamConfigs", "if{", "call:Errorf", "return", "}", "}", "if{", "range{", "if{", "store:svc.TimeoutConfig.Write", "}", "call:len", "call:len", "call:len", "if{", "call:append", "}", "}", "call:len", "if{", "call:Errorf", "return", "}", "}", "return"] := ⟨rfl, rfl, rfl, rfl, rfl, rfl⟩

/-- Tie (T1): helpers, stores and second callers on this property's path (cfg_resolveTemplates, cfg_rewriteRoute, cfg_simpleRoute, cfg_urlParse, cfg_cleanWhiteSpace). -/
theorem C14_wiring2 :
    Sso.Generated.skel_cfg_resolveTemplates =
      ["call:string", "range{", "call:Sprintf", "call:Replace", "}", "call:?", "return"] ∧
    Sso.Generated.skel_cfg_rewriteRoute =
      ["call:Compile", "if{", "return", "}", "return"] ∧
    Sso.Generated.skel_cfg_simpleRoute =
      ["call:urlParse", "if{", "return", "}", "call:urlParse", "if{", "return", "}", "return"] ∧
    Sso.Generated.skel_cfg_urlParse =
      ["call:Contains", "if{", "call:Sprintf", "}", "call:Parse", "return"] ∧
    Sso.Generated.skel_cfg_cleanWhiteSpace =
      ["call:TrimSpace", "call:ReplaceAllString", "return"] := ⟨rfl, rfl, rfl, rfl, rfl⟩

/-- Tie (T1): the decoder tags of sso-proxy's configuration structs (`internal/proxy/configuration.go`): the names under which the environment and the files reach each
setting this property depends on. -/
theorem C14_tags_proxyConfigTags : Sso.Generated.proxyConfigTags =
    ["Configuration.ServerConfig mapstructure:\"server\"", "Configuration.ProviderConfig mapstructure:\"provider\"", "Configuration.ClientConfig mapstructure:\"client\"", "Configuration.SessionConfig mapstructure:\"session\"", "Configuration.UpstreamConfigs mapstructure:\"upstream\"", "Configuration.MetricsConfig mapstructure:\"metrics\"", "Configuration.LoggingConfig mapstructure:\"logging\"", "Configuration.RequestSignerConfig mapstructure:\"requestsigner\"", "ProviderConfig.ProviderType mapstructure:\"type\"", "ProviderConfig.Scope mapstructure:\"scope\"", "ProviderConfig.ProviderURLConfig mapstructure:\"url\"", "ProviderURLConfig.External mapstructure:\"external\"", "ProviderURLConfig.Internal mapstructure:\"internal\"", "SessionConfig.CookieConfig mapstructure:\"cookie\"", "SessionConfig.TTLConfig mapstructure:\"ttl\"", "CookieConfig.Name mapstructure:\"name\"", "CookieConfig.Secret mapstructure:\"secret\"", "CookieConfig.Expire mapstructure:\"expire\"", "CookieConfig.Domain mapstructure:\"domain\"", "CookieConfig.Secure mapstructure:\"secure\"", "CookieConfig.HTTPOnly mapstructure:\"httponly\"", "TTLConfig.Lifetime mapstructure:\"lifetime\"", "TTLConfig.Valid mapstructure:\"valid\"", "TTLConfig.GracePeriod mapstructre:\"grace_period\"", "ClientConfig.ID mapstructure:\"id\"", "ClientConfig.Secret mapstructure:\"secret\"", "ServerConfig.Port mapstructure:\"port\"", "ServerConfig.TimeoutConfig mapstructure:\"timeout\"", "TimeoutConfig.Write mapstructure:\"write\"", "TimeoutConfig.Read mapstructure:\"read\"", "TimeoutConfig.Shutdown mapstructure:\"shutdown\"", "MetricsConfig.StatsdConfig mapstructure:\"statsd\"", "StatsdConfig.Port mapstructure:\"port\"", "StatsdConfig.Host mapstructure:\"host\"", "LoggingConfig.Enable mapstructure:\"enable\"", "UpstreamConfigs.DefaultConfig mapstructure:\"default\"", "UpstreamConfigs.ConfigsFile mapstructure:\"configfile\"", "UpstreamConfigs.testTemplateVars ", "UpstreamConfigs.upstreamConfigs ", "UpstreamConfigs.Cluster mapstructure:\"cluster\"", "UpstreamConfigs.Scheme mapstructure:\"scheme\"", "DefaultConfig.EmailConfig mapstructure:\"email\"", "DefaultConfig.AllowedGroups mapstructure:\"groups\"", "DefaultConfig.ProviderSlug mapstructure:\"provider\"", "DefaultConfig.Timeout mapstructure:\"timeout\"", "DefaultConfig.ResetDeadline mapstructure:\"resetdeadline\"", "EmailConfig.AllowedDomains mapstructure:\"domains\"", "EmailConfig.AllowedAddresses mapstructure:\"addresses\"", "RequestSignerConfig.Key mapstructure:\"key\""] := rfl

/-- Tie (T1): the decoder tags of the upstream file's structs (`internal/proxy/proxy_config.go`): the names under which the environment and the files reach each
setting this property depends on. -/
theorem C14_tags_proxyUpstreamTags : Sso.Generated.proxyUpstreamTags =
    ["ServiceConfig.Service yaml:\"service\"", "ServiceConfig.ClusterConfigs yaml:\",inline\"", "SimpleRoute.FromURL ", "SimpleRoute.ToURL ", "RewriteRoute.FromRegex ", "RewriteRoute.ToTemplate ", "UpstreamConfig.Service ", "UpstreamConfig.RouteConfig yaml:\",inline\"", "UpstreamConfig.ExtraRoutes yaml:\"extra_routes\"", "UpstreamConfig.Route ", "UpstreamConfig.SkipAuthCompiledRegex ", "UpstreamConfig.AllowedGroups ", "UpstreamConfig.AllowedEmailDomains ", "UpstreamConfig.AllowedEmailAddresses ", "UpstreamConfig.TLSSkipVerify ", "UpstreamConfig.SkipAuthPreflight ", "UpstreamConfig.PassAccessToken ", "UpstreamConfig.PreserveHost ", "UpstreamConfig.HMACAuth ", "UpstreamConfig.Timeout ", "UpstreamConfig.ResetDeadline ", "UpstreamConfig.FlushInterval ", "UpstreamConfig.HeaderOverrides ", "UpstreamConfig.InjectRequestHeaders ", "UpstreamConfig.SkipRequestSigning ", "UpstreamConfig.CookieName ", "UpstreamConfig.ProviderSlug ", "RouteConfig.From yaml:\"from\"", "RouteConfig.To yaml:\"to\"", "RouteConfig.Type yaml:\"type\"", "RouteConfig.Options yaml:\"options\"", "OptionsConfig.HeaderOverrides yaml:\"header_overrides\"", "OptionsConfig.InjectRequestHeaders yaml:\"inject_request_headers\"", "OptionsConfig.SkipAuthRegex yaml:\"skip_auth_regex\"", "OptionsConfig.AllowedGroups yaml:\"allowed_groups\"", "OptionsConfig.AllowedEmailDomains yaml:\"allowed_email_domains\"", "OptionsConfig.AllowedEmailAddresses yaml:\"allowed_email_addresses\"", "OptionsConfig.TLSSkipVerify yaml:\"tls_skip_verify\"", "OptionsConfig.SkipAuthPreflight yaml:\"skip_auth_preflight\"", "OptionsConfig.PassAccessToken yaml:\"pass_access_token\"", "OptionsConfig.PreserveHost yaml:\"preserve_host\"", "OptionsConfig.Timeout yaml:\"timeout\"", "OptionsConfig.ResetDeadline yaml:\"reset_deadline\"", "OptionsConfig.FlushInterval yaml:\"flush_interval\"", "OptionsConfig.SkipRequestSigning yaml:\"skip_request_signing\"", "OptionsConfig.ProviderSlug yaml:\"provider_slug\"", "OptionsConfig.CookieName ", "ErrParsingConfig.Message ", "ErrParsingConfig.Err "] := rfl

/-- Tie (T1): `cmd/sso-proxy/main.go`: load the configuration from the environment, validate it, `proxy.New`, wrap in the logging handler, serve — the sequence the harness reproduces when it builds the service in-process (configuration validated before
anything is served; the handler wrapping). -/
theorem C14_skeleton_cmd_proxy_main : Sso.Generated.skel_cmd_proxy_main =
    ["call:LoadConfig", "if{", "call:Exit", "}", "call:Validate", "if{", "call:Exit", "}", "call:NewStatsdClient", "if{", "call:Exit", "}", "go{", "call:New", "call:Run", "}", "call:SetUpstreamConfigs", "if{", "call:Exit", "}", "call:New", "if{", "call:Exit", "}", "call:NewLoggingHandler", "call:Sprintf", "call:Run", "if{", "}"] := rfl

end Sso.Config
