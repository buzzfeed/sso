import SsoModel.AuthN
import Generated.Facts

/-!
# C10 — a login yields a session only for an e-mail the identity provider vouches for
JSON decoding and base64 are oracles (`IDTok`, `TokenResp`, `UserinfoResp` carry what they produced).
-/
namespace Sso.AuthN
open Sso.Validators

/-- Google: a session only if the token endpoint answered 200 with a decodable body, the id_token has a second segment
that decodes to claims with a non-empty, **verified** e-mail — and the session's e-mail is that one. -/
theorem C10_google_session_only_if (t : TokenResp) (idt : IDTok) (e : Bytes) (at' rt : String) (ttl : Int)
    (h : googleRedeem t idt = .session e at' rt ttl) :
    (∃ idTok, t = .ok at' rt idTok ttl) ∧ idt = .claims e true ∧ e ≠ [] := by
  revert h
  fun_cases googleRedeem t idt <;> intro h <;> cases h
  -- left: token answer, id_token with claims, e-mail non-empty and verified
  simp_all

/-- Okta: a session only if the token endpoint answered with a non-empty access token and `/userinfo` answered 200 with a
non-empty, verified e-mail. -/
theorem C10_okta_session_only_if (t : TokenResp) (u : UserinfoResp) (e : Bytes) (at' rt : String) (ttl : Int)
    (h : (oktaRedeem t u).1 = .session e at' rt ttl) :
    (∃ idTok, t = .ok at' rt idTok ttl) ∧ at' ≠ "" ∧ u = .ok e true ∧ e ≠ [] := by
  revert h
  fun_cases oktaRedeem t u <;> intro h <;> cases h
  -- left: token answer with an access token, userinfo with a non-empty verified e-mail
  simp_all

/-- **Never a crash**: for every provider answer the (repaired) Google login path returns a session or an error. -/
theorem C10_never_panics (t : TokenResp) (idt : IDTok) : googleRedeem t idt ≠ .panic := by
  fun_cases googleRedeem t idt <;> nofun

theorem C10_okta_never_panics (t : TokenResp) (u : UserinfoResp) : (oktaRedeem t u).1 ≠ .panic := by
  fun_cases oktaRedeem t u <;> nofun

/-- Cognito: a session only if the token endpoint answered with a non-empty access token and `/oauth2/userInfo` answered 200
with a non-empty e-mail — and the session's e-mail is that one. -/
theorem C10_cognito_session_only_if (t : TokenResp) (u : UserinfoResp) (e : Bytes) (at' rt : String) (ttl : Int)
    (h : (cognitoRedeem t u).1 = .session e at' rt ttl) :
    (∃ idTok, t = .ok at' rt idTok ttl) ∧ at' ≠ "" ∧ (∃ v, u = .ok e v) ∧ e ≠ [] := by
  revert h
  fun_cases cognitoRedeem t u <;> intro h <;> cases h
  -- left: token answer with an access token, userinfo with a non-empty e-mail
  simp_all

theorem C10_cognito_never_panics (t : TokenResp) (u : UserinfoResp) : (cognitoRedeem t u).1 ≠ .panic := by
  fun_cases cognitoRedeem t u <;> nofun

/-- every failing answer (any non-200, transport error, malformed body, empty access token, empty e-mail) ends in an error and
the userinfo endpoint is not even asked when the token call failed -/
theorem C10_cognito_error_cases (t : TokenResp) (u : UserinfoResp)
    (h : (∀ a r i l, t ≠ .ok a r i l) ∨ (∃ r i l, t = .ok "" r i l) ∨ (∀ e v, u ≠ .ok e v) ∨ (∃ v, u = .ok [] v)) :
    (cognitoRedeem t u).1 = .error := by
  cases hr : (cognitoRedeem t u).1 with
  | error => rfl
  | panic => exact absurd hr (C10_cognito_never_panics t u)
  | session e a r l =>
    obtain ⟨⟨i, ht⟩, ha, ⟨v, hu⟩, he⟩ := C10_cognito_session_only_if t u e a r l hr
    exfalso
    rcases h with h | ⟨_, _, _, h⟩ | h | ⟨_, h⟩
    · exact h _ _ _ _ ht
    · cases ht ▸ h; exact ha rfl
    · exact h _ _ hu
    · cases hu ▸ h; exact he rfl

example : (cognitoRedeem (.ok "at" "rt" "" 600) (.ok [97] false)).1 = .session [97] "at" "rt" 600 := rfl

/-- **C10, all three providers at once**: `Redeem` yields a session only for a non-empty code, a 200 token answer and an e-mail
the provider returned for it — for Google the id_token's verified claim, for Okta the verified userinfo e-mail, for Cognito the
userinfo e-mail — and it never crashes. -/
theorem C10_redeem_session_only_vouched (k : ProvKind) (code : String) (t : TokenResp) (idt : IDTok) (u : UserinfoResp)
    (e : Bytes) (at' rt : String) (ttl : Int) (h : (redeemOf k code t idt u).1 = .session e at' rt ttl) :
    code ≠ "" ∧ e ≠ [] ∧ (∃ idTok, t = .ok at' rt idTok ttl) ∧
      (match k with
       | .google => idt = .claims e true
       | .okta => u = .ok e true
       | .cognito => ∃ v, u = .ok e v) := by
  unfold redeemOf at h
  by_cases hc : code = ""
  · simp [hc] at h
  · simp only [hc, if_false] at h
    cases k with
    | google =>
      have := C10_google_session_only_if t idt e at' rt ttl h
      exact ⟨hc, this.2.2, this.1, this.2.1⟩
    | okta =>
      have := C10_okta_session_only_if t u e at' rt ttl h
      exact ⟨hc, this.2.2.2, this.1, this.2.2.1⟩
    | cognito =>
      have := C10_cognito_session_only_if t u e at' rt ttl h
      exact ⟨hc, this.2.2.2, this.1, this.2.2.1⟩

theorem C10_redeem_never_panics (k : ProvKind) (code : String) (t : TokenResp) (idt : IDTok) (u : UserinfoResp) :
    (redeemOf k code t idt u).1 ≠ .panic := by
  unfold redeemOf
  by_cases hc : code = ""
  · simp [hc]
  · simp only [hc, if_false]
    cases k with
    | google => exact C10_never_panics t idt
    | okta => exact C10_okta_never_panics t u
    | cognito => exact C10_cognito_never_panics t u

/-- the pinned tree crashed on an id_token without a second segment (finding (g), fixed) -/
theorem C10_unfixed_panics : googleRedeemUnfixed (.ok "a" "r" "nodots" 60) .noSecondSegment = .panic := rfl

/-- No session cookie on any error: the callback sets a session only through the `session` outcome, which requires a
`LoginRes.session` (C09's theorem gives the remaining conjuncts). -/
theorem C10_no_session_on_error (emailOK : Bytes → Bool) (i : CbIn) (h : i.login = .error) :
    ∃ n, oauthCallback emailOK i = .error n := by
  unfold oauthCallback
  by_cases h1 : i.errorParam ≠ ""
  · exact ⟨403, by simp [h1]⟩
  · by_cases h2 : i.code = ""
    · exact ⟨400, by simp [h1, h2]⟩
    · exact ⟨500, by simp [h1, h2, h]⟩

/-- Tie (T1): the authenticator's provider middleware passes `Redeem` straight through — two logins that overlap at the
token call are each redeemed with their own code; nobody is handed a copy of someone else's session. -/
theorem C10_redeem_not_coalesced : Sso.Generated.skel_auth_sf_Redeem = ["call:Redeem", "return"] := rfl

/-- Tie (T1): `emailFromIDToken` checks the number of segments before indexing. -/
theorem C10_skeleton_emailFromIDToken : Sso.Generated.skel_auth_emailFromIDToken =
    ["call:Split", "call:len", "if{", "call:New", "return", "}", "call:jwtDecodeSegment", "if{", "return", "}", "call:Unmarshal", "if{", "return", "}",
     "if{", "call:New", "return", "}", "if{", "call:Errorf", "return", "}", "return"] := rfl

/-- Tie (T1): the IdP callback and both providers' `Redeem`. -/
theorem C10_wiring :
    Sso.Generated.skel_auth_getOAuthCallback =
      ["call:getRemoteAddr", "call:ParseForm", "if{", "call:Error", "return", "}", "call:Get", "if{", "return", "}", "call:Get", "if{", "return", "}", "call:redeemCode", "if{", "return", "}", "call:Get", "call:DecodeString", "if{", "return", "}", "call:string", "call:SplitN", "call:len", "if{", "return", "}", "call:GetCSRF", "if{", "return", "}", "call:ClearCSRF", "if{", "return", "}", "call:validRedirectURI", "if{", "return", "}", "call:RunValidators", "call:len", "call:len", "if{", "call:len", "call:make", "range{", "call:Error", "call:append", "}", "call:Join", "call:Sprintf", "return", "}", "call:SaveSession", "if{", "return", "}", "return"] ∧
    Sso.Generated.skel_google_Redeem =
      ["if{", "return", "}", "call:Add", "call:Add", "call:Add", "call:Add", "call:Add", "call:String", "call:googleRequest", "if{", "return", "}", "call:emailFromIDToken", "if{", "return", "}", "call:Duration", "call:ExtendDeadline", "call:ExtendDeadline", "return"] ∧
    Sso.Generated.skel_okta_Redeem =
      ["if{", "return", "}", "call:Add", "call:Add", "call:Add", "call:Add", "call:Add", "call:Add", "call:String", "call:oktaRequest", "if{", "return", "}", "call:verifyEmailWithAccessToken", "if{", "return", "}", "call:Duration", "call:ExtendDeadline", "call:ExtendDeadline", "return"] ∧
    Sso.Generated.skel_okta_verifyEmailWithAccessToken =
      ["if{", "return", "}", "call:GetUserProfile", "if{", "return", "}", "if{", "call:New", "return", "}", "if{", "call:New", "return", "}", "return"] := ⟨rfl, rfl, rfl, rfl⟩

/-- Tie (T1): helpers, stores and second callers on this property's path (auth_redeemCode, auth_jwtDecodeSegment, cognito_Redeem, cognito_verifyEmailWithAccessToken). -/
theorem C10_wiring2 :
    Sso.Generated.skel_auth_redeemCode =
      ["call:GetRedirectURI", "call:Redeem", "if{", "return", "}", "if{", "call:Errorf", "return", "}", "return"] ∧
    Sso.Generated.skel_auth_jwtDecodeSegment =
      ["call:len", "if{", "call:Repeat", "}", "call:DecodeString", "return"] ∧
    Sso.Generated.skel_cognito_Redeem =
      ["if{", "return", "}", "call:Add", "call:Add", "call:Add", "call:Add", "call:Add", "call:String", "call:amazonCognitoRequest", "if{", "return", "}", "call:verifyEmailWithAccessToken", "if{", "return", "}", "call:Duration", "call:ExtendDeadline", "call:ExtendDeadline", "return"] ∧
    Sso.Generated.skel_cognito_verifyEmailWithAccessToken =
      ["if{", "return", "}", "call:GetUserProfile", "if{", "return", "}", "if{", "call:New", "return", "}", "return"] := ⟨rfl, rfl, rfl, rfl⟩

/-- Tie (T1): the constructors and option functions that hand configured values to the components this property
speaks about (auth_newProvider, auth_SetProvider, auth_GetRedirectURI). -/
theorem C10_wiring3 :
    Sso.Generated.skel_auth_newProvider =
      ["switch{", "case providers.GoogleProviderName{", "call:NewGoogleProvider", "if{", "return", "}", "call:NewFillCache", "store:googleProvider.GroupsCache", "call:NewSingleFlightProvider", "}", "case providers.OktaProviderName{", "call:NewOktaProvider", "if{", "return", "}", "call:NewGroupCache", "call:NewSingleFlightProvider", "}", "case providers.AmazonCognitoProviderName{", "call:NewAmazonCognitoProvider", "if{", "return", "}", "call:NewFillCache", "store:amazonCognitoProvider.GroupsCache", "call:NewSingleFlightProvider", "}", "case \"test\"{", "call:NewTestProvider", "return", "}", "default{", "call:Errorf", "return", "}", "}", "return"] ∧
    Sso.Generated.skel_auth_SetProvider =
      ["func{", "store:a.provider", "return", "}", "return"] ∧
    Sso.Generated.skel_auth_GetRedirectURI =
      ["call:String", "return"] := ⟨rfl, rfl, rfl⟩

end Sso.AuthN
