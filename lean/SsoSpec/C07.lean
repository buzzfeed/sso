import SsoSpec.Lemmas.AuthN
import Generated.Facts

/-!
# C07 — the authenticator redirects and hands codes only to signed, in-domain, fresh URIs
`url.Parse`, base64 and `ParseInt` are oracles; the HMAC is idealised as `macEqual`.
-/
namespace Sso.AuthN

/-- Tie (T1): `/sign_in` and `/sign_out` sit behind `validateRedirectURI ▸ validateSignature` (sign_in also behind
`validateClientID`), in that order, inside `withMethods`; `/start` and `/callback` validate inside their handlers. -/
theorem C07_routes_gated :
    Sso.Generated.authRoutes =
      [("/start", ["GET"], ["withMethods"], "OAuthStart"),
       ("/sign_in", ["GET"], ["withMethods", "validateClientID", "validateRedirectURI", "validateSignature"], "SignIn"),
       ("/sign_out", ["GET", "POST"], ["withMethods", "validateRedirectURI", "validateSignature"], "SignOut"),
       ("/callback", ["GET"], ["withMethods"], "OAuthCallback"),
       ("/profile", ["GET"], ["withMethods", "validateClientID", "validateClientSecret"], "GetProfile"),
       ("/validate", ["GET"], ["withMethods", "validateClientID", "validateClientSecret"], "ValidateToken"),
       ("/redeem", ["POST"], ["withMethods", "validateClientID", "validateClientSecret"], "Redeem"),
       ("/refresh", ["POST"], ["withMethods", "validateClientID", "validateClientSecret"], "Refresh")] := rfl

/-- An accepted redirect URI has a host Go parsed, that is not an IP literal, and whose name ends with a configured
root domain *including its leading dot*, or equals the root itself — never a mere look-alike suffix. -/
theorem C07_valid_redirect_in_domain (roots : List (List Char)) (uri : String) (p : ParsedURL)
    (h : validRedirect roots uri p = true) :
    uri ≠ "" ∧ p.ok = true ∧ p.host ≠ "" ∧ p.hostname.contains ':' = false ∧ p.hostname.contains '%' = false ∧
    ∃ d ∈ roots, d <:+ p.hostname ∨ p.hostname = trimLeftDots d := by
  unfold validRedirect at h
  simp only [Bool.and_eq_true, decide_eq_true_eq, Bool.not_eq_eq_eq_not, Bool.not_true, Bool.or_eq_false_iff,
    List.any_eq_true, Bool.or_eq_true] at h
  obtain ⟨⟨⟨⟨h1, h2⟩, h3⟩, h4, h5⟩, d, hd, hm⟩ := h
  exact ⟨h1, h2, h3, h4, h5, d, hd, by simpa using hm⟩

/-- with roots normalised by `NewAuthenticator` (leading dot), a name that merely *contains* the root as a suffix
without the dot — `evilx.io` for root `.x.io` — is not accepted -/
theorem C07_no_lookalike :
    validRedirect [".x.io".toList] "https://evilx.io/" ⟨true, "evilx.io", "evilx.io".toList⟩ = false ∧
    validRedirect [".x.io".toList] "https://x.io.evil.io/" ⟨true, "x.io.evil.io", "x.io.evil.io".toList⟩ = false ∧
    validRedirect [".x.io".toList] "https://x.io/" ⟨true, "x.io", "x.io".toList⟩ = true ∧
    validRedirect [".x.io".toList] "https://a.x.io/" ⟨true, "a.x.io", "a.x.io".toList⟩ = true ∧
    validRedirect [".x.io".toList] "https://[::1%25.x.io]/" ⟨true, "[::1%25.x.io]", "::1%.x.io".toList⟩ = false := by decide

/-- **Signed and fresh**: whatever passes `validSignature` carried a MAC equal to the one the authenticator computes over
`redirect_uri ++ decimal(ts)` under the proxy's secret, with a parseable `ts` at most five minutes old. -/
theorem C07_valid_signature_sound (secret : String) (now : Int) (s : SigIn) (h : validSignature secret now s = true) :
    s.uri ≠ "" ∧ s.sig ≠ "" ∧ secret ≠ "" ∧ s.macEqual = true ∧ ∃ t, s.tsValue = some t ∧ now - t ≤ sigTTL := by
  unfold validSignature at h
  cases ht : s.tsValue with
  | none => simp [ht] at h
  | some t =>
    simp only [ht, Bool.and_eq_true, decide_eq_true_eq] at h
    obtain ⟨⟨⟨⟨⟨⟨h1, h2⟩, _⟩, h4⟩, _⟩, _⟩, h7, h8⟩ := h
    exact ⟨h1, h2, h4, h8, t, rfl, h7⟩

/-- **Gates**: a handler behind `validateRedirectURI ▸ validateSignature` runs only for an in-domain, signed, fresh
redirect URI; every other request gets an error page and the handler does not run. -/
theorem C07_gated_handler_runs_only_if (c : Cfg) (now : Int) (r : Req) (pre post : List Gate)
    (h : firstFail c now r (pre ++ [.redirectURI, .signature] ++ post) = none) :
    validRedirect c.roots r.redirect r.redirectParsed = true ∧ validSignature c.proxySecret now r.sig = true := by
  have h := firstFail_eq_none.1 h
  exact ⟨(of_gateFail_eq_none c now r .redirectURI (h _ (by simp))).2,
    (of_gateFail_eq_none c now r .signature (h _ (by simp))).2⟩

/-- The MAC input `redirect_uri ++ decimal(ts)` has no separator, so the same input can be split differently: the
leading digit(s) of a genuine timestamp `T` can be moved to the end of the URI. The remaining timestamp `ts'` then lacks the
leading digit's weight `p = 10^(k-1)·a ≥ 1000` (any `T` with at least four digits): with the signer's clock at most ten
minutes ahead, `ts'` is stale, so the re-split signature is rejected by the freshness check. -/
theorem C07_sig_resplit_is_stale (p ts' T now : Int) (hp : 1000 ≤ p) (hsplit : ts' + p ≤ T) (hclock : T ≤ now + 600) :
    ¬ (now - ts' ≤ sigTTL) := by
  unfold sigTTL; omega

example : validSignature "s" 1000 ⟨"u", "x", "900", true, true, some 900, true⟩ = true := by decide
example : validSignature "s" 1000 ⟨"u", "x", "600", true, true, some 600, true⟩ = false := by decide

/-- Tie (T1): `validSignature` reads the clock itself, at the moment of the check (`Now` … `Sub`), and the middleware calls
it per request inside the handler closure — the five-minute window is never anchored at start-up. -/
theorem C07_skeleton_validSignature :
    Sso.Generated.skel_auth_validSignature = ["if{", "return", "}", "call:Parse", "if{", "return", "}", "call:DecodeString", "if{", "return", "}", "call:ParseInt", "if{", "return", "}", "call:Unix", "call:Now", "call:Sub", "if{", "return", "}", "call:redirectURLSignature", "call:Equal", "return"] ∧
    Sso.Generated.skel_auth_validateSignature = ["func{", "call:ParseForm", "if{", "call:Error", "call:ErrorResponse", "return", "}", "call:Get", "call:Get", "call:Get", "call:validSignature", "if{", "call:ErrorResponse", "return", "}", "call:f", "}", "return"] := ⟨rfl, rfl⟩

/-- Tie (T1): the redirect-URI predicate and its middleware. -/
theorem C07_wiring :
    Sso.Generated.skel_auth_validRedirectURI =
      ["call:Parse", "if{", "return", "}", "call:Hostname", "call:ContainsAny", "if{", "return", "}", "range{", "call:Hostname", "call:HasSuffix", "call:Hostname", "call:TrimLeft", "if{", "return", "}", "}", "return"] ∧
    Sso.Generated.skel_auth_validateRedirectURI =
      ["func{", "call:ParseForm", "if{", "call:Error", "call:ErrorResponse", "return", "}", "call:Get", "call:validRedirectURI", "if{", "call:ErrorResponse", "return", "}", "call:f", "}", "return"] ∧
    Sso.Generated.skel_auth_redirectURLSignature =
      ["call:?", "call:New", "call:?", "call:Write", "call:Unix", "call:Sprint", "call:?", "call:Write", "call:Sum", "return"] := ⟨rfl, rfl, rfl⟩

/-- Tie (T1): `SetRedirectURL` only records the authenticator's own callback URL; it does not touch the root-domain list. -/
theorem C07_skeleton_SetRedirectURL : Sso.Generated.skel_auth_SetRedirectURL =
    ["func{", "call:Join", "store:a.redirectURL", "return", "}", "return"] := rfl

/-- Tie (T1): helpers, stores and second callers on this property's path (auth_OAuthStart, auth_OAuthCallback, auth_getOAuthCallback). -/
theorem C07_wiring2 :
    Sso.Generated.skel_auth_OAuthStart =
      ["call:GenerateKey", "call:Sprintf", "call:SetCSRF", "call:Query", "call:Get", "call:Parse", "call:String", "call:validRedirectURI", "if{", "call:ErrorResponse", "return", "}", "call:Query", "call:Get", "call:Parse", "call:String", "call:validRedirectURI", "if{", "call:ErrorResponse", "return", "}", "call:Query", "call:Get", "call:Query", "call:Get", "call:String", "call:validSignature", "if{", "call:ErrorResponse", "return", "}", "call:GetRedirectURI", "call:String", "call:Sprintf", "call:?", "call:EncodeToString", "call:GetSignInURL", "call:Redirect"] ∧
    Sso.Generated.skel_auth_OAuthCallback =
      ["call:getOAuthCallback", "typeswitch{", "case{", "break", "}", "case{", "call:ErrorResponse", "return", "}", "case{", "call:ErrorResponse", "return", "}", "}", "call:Redirect"] ∧
    Sso.Generated.skel_auth_getOAuthCallback =
      ["call:getRemoteAddr", "call:ParseForm", "if{", "call:Error", "return", "}", "call:Get", "if{", "return", "}", "call:Get", "if{", "return", "}", "call:redeemCode", "if{", "return", "}", "call:Get", "call:DecodeString", "if{", "return", "}", "call:string", "call:SplitN", "call:len", "if{", "return", "}", "call:GetCSRF", "if{", "return", "}", "call:ClearCSRF", "if{", "return", "}", "call:validRedirectURI", "if{", "return", "}", "call:RunValidators", "call:len", "call:len", "if{", "call:len", "call:make", "range{", "call:Error", "call:append", "}", "call:Join", "call:Sprintf", "return", "}", "call:SaveSession", "if{", "return", "}", "return"] := ⟨rfl, rfl, rfl⟩

/-- Tie (T1): the decoder tags of sso-auth's configuration structs (`internal/auth/configuration.go`): the names under which the environment and the files reach each
setting this property depends on. -/
theorem C07_tags_authConfigTags : Sso.Generated.authConfigTags =
    ["Configuration.ProviderConfigs mapstructure:\"provider\"", "Configuration.ClientConfigs mapstructure:\"client\"", "Configuration.GroupCacheConfig mapstructure:\"groupcache\"", "Configuration.AuthorizeConfig mapstructure:\"authorize\"", "Configuration.SessionConfig mapstructure:\"session\"", "Configuration.ServerConfig mapstructure:\"server\"", "Configuration.MetricsConfig mapstructure:\"metrics\"", "Configuration.LoggingConfig mapstructure:\"logging\"", "ProviderConfig.ProviderType mapstructure:\"type\"", "ProviderConfig.ProviderSlug mapstructure:\"slug\"", "ProviderConfig.ClientConfig mapstructure:\"client\"", "ProviderConfig.Scope mapstructure:\"scope\"", "ProviderConfig.GoogleProviderConfig mapstructure:\"google\"", "ProviderConfig.OktaProviderConfig mapstructure:\"okta\"", "ProviderConfig.AmazonCognitoProviderConfig mapstructure:\"cognito\"", "ProviderConfig.GroupCacheConfig mapstructure:\"groupcache\"", "GoogleProviderConfig.Credentials mapstructure:\"credentials\"", "GoogleProviderConfig.Impersonate mapstructure:\"impersonate\"", "GoogleProviderConfig.ApprovalPrompt mapstructure:\"prompt\"", "GoogleProviderConfig.HostedDomain mapstructure:\"domain\"", "OktaProviderConfig.ServerID mapstructure:\"server\"", "OktaProviderConfig.OrgURL mapstructure:\"url\"", "AmazonCognitoProviderConfig.OrgURL mapstructure:\"url\"", "AmazonCognitoProviderConfig.UserPoolID mapstructure:\"id\"", "AmazonCognitoProviderConfig.Region mapstructure:\"region\"", "AmazonCognitoProviderConfig.Credentials mapstructure:\"credentials\"", "CognitoCredentials.ID mapstructure:\"id\"", "CognitoCredentials.Secret mapstructure:\"secret\"", "GroupCacheConfig.CacheIntervalConfig mapstructure:\"interval\"", "CacheIntervalConfig.Provider mapstructure:\"provider\"", "CacheIntervalConfig.Refresh mapstructure:\"refresh\"", "SessionConfig.CookieConfig mapstructure:\"cookie\"", "SessionConfig.SessionLifetimeTTL mapstructure:\"lifetime\"", "SessionConfig.Key mapstructure:\"key\"", "CookieConfig.Name mapstructure:\"name\"", "CookieConfig.Secret mapstructure:\"secret\"", "CookieConfig.Domain mapstructure:\"domain\"", "CookieConfig.Expire mapstructure:\"expire\"", "CookieConfig.Secure mapstructure:\"secure\"", "CookieConfig.HTTPOnly mapstructure:\"httponly\"", "ServerConfig.Host mapstructure:\"host\"", "ServerConfig.Port mapstructure:\"port\"", "ServerConfig.Scheme mapstructure:\"scheme\"", "ServerConfig.TimeoutConfig mapstructure:\"timeout\"", "TimeoutConfig.Write mapstructure:\"write\"", "TimeoutConfig.Read mapstructure:\"read\"", "TimeoutConfig.Request mapstructure:\"request\"", "TimeoutConfig.Shutdown mapstructure:\"shutdown\"", "ClientConfig.ID mapstructure:\"id\"", "ClientConfig.Secret mapstructure:\"secret\"", "AuthorizeConfig.EmailConfig mapstructure:\"email\"", "AuthorizeConfig.ProxyConfig mapstructure:\"proxy\"", "EmailConfig.Domains mapstructure:\"domains\"", "EmailConfig.Addresses mapstructure:\"addresses\"", "ProxyConfig.Domains mapstructure:\"domains\"", "MetricsConfig.StatsdConfig mapstructure:\"statsd\"", "LoggingConfig.Enable mapstructure:\"enable\"", "LoggingConfig.Level mapstructure:\"level\"", "StatsdConfig.Port mapstructure:\"port\"", "StatsdConfig.Host mapstructure:\"host\""] := rfl

/-- Tie (T1): `cmd/sso-auth/main.go`: load the configuration from the environment, validate it, `NewAuthenticatorMux`, wrap in the timeout and logging handlers, serve — the sequence the harness reproduces when it builds the service in-process (configuration validated before
anything is served; the handler wrapping). -/
theorem C07_skeleton_cmd_auth_main : Sso.Generated.skel_cmd_auth_main =
    ["call:LoadConfig", "if{", "call:Exit", "}", "call:Validate", "if{", "call:Exit", "}", "call:NewStatsdClient", "if{", "call:Exit", "}", "call:NewAuthenticatorMux", "if{", "call:Exit", "}", "defer:Stop", "call:TimeoutHandler", "call:Sprintf", "call:NewLoggingHandler", "call:Run", "if{", "}"] := rfl

/-- Tie (T1): the constructors and option functions that hand configured values to the components this property
speaks about (auth_NewAuthenticator, auth_GetRedirectURI, auth_getAuthCodeRedirectURL). -/
theorem C07_wiring3 :
    Sso.Generated.skel_auth_NewAuthenticator =
      ["call:NewHTMLTemplate", "range{", "call:HasPrefix", "if{", "call:Sprintf", "}", "call:append", "}", "call:newMux", "store:p.ServeMux", "range{", "call:optFunc", "if{", "return", "}", "}", "return"] ∧
    Sso.Generated.skel_auth_GetRedirectURI =
      ["call:String", "return"] ∧
    Sso.Generated.skel_auth_getAuthCodeRedirectURL =
      ["call:String", "call:Parse", "if{", "return", "}", "call:ParseQuery", "if{", "return", "}", "call:Set", "call:Set", "call:Encode", "store:u.RawQuery", "store:u.Scheme", "call:String", "return"] := ⟨rfl, rfl, rfl⟩

end Sso.AuthN
