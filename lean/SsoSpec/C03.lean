import Generated.Facts
import SsoSpec.Lemmas.Forward

/-!
# C03 — the upstream sees only proxy-asserted identity headers, never the session cookie
-/
namespace Sso.Forward
open Sso.Harden

/-- **Unauthenticated (skip-auth / preflight) passes carry no identity header**, whatever the client sent — any
spelling, any multiplicity (names are canonicalised by net/http before sso sees them). -/
theorem C03_identity_headers_skip_auth (c : Cfg) (cookies : List (String × String)) (render : String × String → String)
    (conn : List String) (h : HMap) (k : String) (hk : k ∈ identityHeaders) :
    hget (pipeline c none cookies render conn h) k = [] :=
  (hget_pipeline_identity hk).trans (ite_self _)

/-- **Authenticated passes carry exactly the session's values** for user / e-mail / groups — provided the client's
`Connection` header does not nominate that header (hypothesis forced by the proof; see `C03_connection_refuted`), and
no inject-header is one of the identity headers. -/
theorem C03_partial_identity_headers_authenticated (c : Cfg) (id : Ident) (cookies : List (String × String))
    (render : String × String → String) (conn : List String) (h : HMap)
    (hconn : ∀ k ∈ identityHeaders, k ∉ conn) :
    hget (pipeline c (some id) cookies render conn h) "X-Forwarded-User" = [id.user] ∧
    hget (pipeline c (some id) cookies render conn h) "X-Forwarded-Email" = [id.email] ∧
    hget (pipeline c (some id) cookies render conn h) "X-Forwarded-Groups" = [id.groups] ∧
    (id.accessToken = none → hget (pipeline c (some id) cookies render conn h) "X-Forwarded-Access-Token" = []
        ∨ ∃ v, ("X-Forwarded-Access-Token", v) ∈ c.inject) := by
  have through : ∀ {k}, k ∈ identityHeaders → hget (pipeline c (some id) cookies render conn h) k =
      hget (injectIdentity c.inject id (scrub h)) k :=
    fun hk => (hget_pipeline_identity hk).trans (if_neg (hconn _ hk))
  obtain ⟨mU, mE, mG, mT⟩ := identityHeaders_mem
  obtain ⟨hU, hE, hG, hT⟩ := hget_injectIdentity c.inject id (scrub h)
  refine ⟨(through mU).trans hU, (through mE).trans hE, (through mG).trans hG, fun hnone => ?_⟩
  rw [through mT, hT, hnone]
  -- no token to pass: the name holds what an inject-header set, or nothing, `scrub` having emptied it
  by_cases hinj : ∃ v, ("X-Forwarded-Access-Token", v) ∈ c.inject
  · exact .inr hinj
  · left
    rw [hget_setAll_of_not_mem fun (_, v) hp e => hinj ⟨v, e ▸ hp⟩, hget_scrub, if_pos mT]

/-- **Never a client-chosen identity** (full strength, no hypothesis on `Connection`): on an authenticated pass each of
`X-Forwarded-User` / `-Email` / `-Groups` reaches the upstream either with exactly the session's value or not at all —
for every client header map, cookie list and `Connection` token list. The client can make the reverse proxy *drop* a
header (`C03_connection_refuted`), never make it carry a value of the client's choosing. -/
theorem C03_identity_value_or_absent (c : Cfg) (id : Ident) (cookies : List (String × String))
    (render : String × String → String) (conn : List String) (h : HMap) :
    (hget (pipeline c (some id) cookies render conn h) "X-Forwarded-User" = [id.user] ∨
      hget (pipeline c (some id) cookies render conn h) "X-Forwarded-User" = []) ∧
    (hget (pipeline c (some id) cookies render conn h) "X-Forwarded-Email" = [id.email] ∨
      hget (pipeline c (some id) cookies render conn h) "X-Forwarded-Email" = []) ∧
    (hget (pipeline c (some id) cookies render conn h) "X-Forwarded-Groups" = [id.groups] ∨
      hget (pipeline c (some id) cookies render conn h) "X-Forwarded-Groups" = []) := by
  have through : ∀ {k v}, k ∈ identityHeaders → hget (injectIdentity c.inject id (scrub h)) k = v →
      hget (pipeline c (some id) cookies render conn h) k = v ∨
      hget (pipeline c (some id) cookies render conn h) k = [] := by
    intro k v hk hv
    rw [hget_pipeline_identity hk]
    split
    · exact .inr rfl
    · exact .inl hv
  obtain ⟨mU, mE, mG, _⟩ := identityHeaders_mem
  obtain ⟨hU, hE, hG, _⟩ := hget_injectIdentity c.inject id (scrub h)
  exact ⟨through mU hU, through mE hE, through mG hG⟩

/-- Full strength is **refuted**: a client that sends `Connection: X-Forwarded-Email` makes the reverse proxy strip the
header the proxy has just set. KNOWN FINDING `connection-nominated-headers`. -/
theorem C03_connection_refuted :
    ¬ ∀ (c : Cfg) (id : Ident) (conn : List String) (h : HMap),
        hget (pipeline c (some id) [] (fun p => p.1 ++ "=" ++ p.2) conn h) "X-Forwarded-Email" = [id.email] := by
  intro hall
  have := hall ⟨"_sso_proxy", []⟩ ⟨"u", "u@x.io", "", none⟩ ["X-Forwarded-Email"] []
  rw [hget_pipeline_identity identityHeaders_mem.2.1, if_pos List.mem_cons_self] at this
  cases this

/-- **The session cookie is never forwarded**: the `Cookie` header the upstream receives is rendered from the request's
cookies minus every cookie with the session cookie's name; if nothing else is left there is no `Cookie` header. -/
theorem C03_session_cookie_never_forwarded (cookieName : String) (cookies : List (String × String))
    (render : String × String → String) (h : HMap) :
    (∀ p ∈ cookies.filter (·.1 ≠ cookieName), p.1 ≠ cookieName) ∧
    (cookies.filter (·.1 ≠ cookieName) = [] → hget (deleteCookie cookieName cookies render h) "Cookie" = []) ∧
    (cookies.filter (·.1 ≠ cookieName) ≠ [] →
        hget (deleteCookie cookieName cookies render h) "Cookie" = [";".intercalate ((cookies.filter (·.1 ≠ cookieName)).map render)]) := by
  refine ⟨fun p hp => by simpa using (List.mem_filter.1 hp).2, ?_, ?_⟩
  · intro he; rw [hget_deleteCookie, if_pos rfl, if_pos he]
  · intro hne; rw [hget_deleteCookie, if_pos rfl, if_neg hne]

/-- … and every other cookie is kept, once per occurrence, in order. -/
theorem C03_other_cookies_preserved (cookieName : String) (cookies : List (String × String)) :
    (cookies.filter (·.1 ≠ cookieName)) = cookies.filter (fun p => p.1 ≠ cookieName) ∧
    ∀ p, p.1 ≠ cookieName → (cookies.filter (·.1 ≠ cookieName)).count p = cookies.count p := by
  refine ⟨rfl, ?_⟩
  intro p hp
  rw [List.count_filter]
  simp [hp]

/-- Tie (T1): the handler chain of `NewUpstreamReverseProxy` (cookie deletion outermost, then signing, then the optional
timeout handler, then the reverse proxy) and the covered/identity header tables. -/
theorem C03_chain : Sso.Generated.skel_proxy_NewUpstreamReverseProxy =
    ["typeswitch{", "case{", "call:StaticDirectorFunc", "}", "case{", "call:RewriteDirectorFunc", "}", "case{", "call:Errorf", "return", "}", "}",
     "func{", "range{", "call:Del", "}", "call:Del", "return", "}", "if{", "call:newTimeoutHandler", "}", "if{", "call:newSigningHandler", "}",
     "call:deleteCookieHandler", "return"] := rfl

/-- Tie (T1): the transport to the upstreams — exactly these fields of `http.Transport` are set (no `ForceAttemptHTTP2`, no
custom `DialTLS`): requests reach an upstream with HTTP/1.1 framing, the framing the signing document, the `Cookie` rendering and the
forward engine's recording backend are written for. -/
theorem C03_upstream_transport :
    Sso.Generated.upstreamTransportFields =
      ["Proxy,DialContext,MaxIdleConns,IdleConnTimeout,TLSHandshakeTimeout,TLSClientConfig,ExpectContinueTimeout"] ∧
    Sso.Generated.skel_proxy_getTransport =
      ["call:Lock", "defer:Unlock", "call:Now", "call:After", "if{", "call:Now", "call:Add", "store:t.deadAfter", "store:t.transport", "}", "return"] := ⟨rfl, rfl⟩

/-- Tie (T1): the session-cookie filter and its place in the handler chain. -/
theorem C03_wiring :
    Sso.Generated.skel_proxy_deleteCookieHandler =
      ["func{", "call:deleteCookie", "call:ServeHTTP", "}", "call:HandlerFunc", "return"] ∧
    Sso.Generated.skel_proxy_deleteCookie =
      ["call:Cookies", "range{", "if{", "call:String", "call:append", "}", "}", "call:len", "if{", "call:Del", "return", "}", "call:Join", "call:Set"] ∧
    Sso.Generated.skel_proxy_DirectorFunc =
      ["func{", "store:req.URL.Scheme", "store:req.URL.Host", "call:singleJoiningSlash", "store:req.URL.Path", "if{", "store:req.URL.RawQuery", "}", "else{", "store:req.URL.RawQuery", "}", "if{", "call:Set", "}", "call:Add", "if{", "store:req.Host", "}", "}", "return"] := ⟨rfl, rfl, rfl⟩

/-- Tie (T1): the session is looked up under the cookie's exact configured name (`req.Cookie(name)`), the very name
`deleteCookie` strips. -/
theorem C03_skeleton_LoadSession : Sso.Generated.skel_store_LoadSession =
    ["call:Cookie", "if{", "return", "}", "call:UnmarshalSession", "if{", "return", "}", "return"] := rfl

/-- Tie (T1): helpers, stores and second callers on this property's path (proxy_StaticDirectorFunc, proxy_RewriteDirectorFunc, proxy_upstreamTransport_RoundTrip). -/
theorem C03_wiring2 :
    Sso.Generated.skel_proxy_StaticDirectorFunc =
      ["call:DirectorFunc", "return"] ∧
    Sso.Generated.skel_proxy_RewriteDirectorFunc =
      ["func{", "call:ReplaceAllString", "call:urlParse", "if{", "store:req.URL", "return", "}", "call:?", "}", "return"] ∧
    Sso.Generated.skel_proxy_upstreamTransport_RoundTrip =
      ["call:getTransport", "call:RoundTrip", "if{", "return", "}", "return"] := ⟨rfl, rfl, rfl⟩

/-- Tie (T1): the constructors and option functions that hand configured values to the components this property
speaks about (proxy_SetUpstreamConfig). -/
theorem C03_wiring3 :
    Sso.Generated.skel_proxy_SetUpstreamConfig =
      ["func{", "store:op.upstreamConfig", "return", "}", "return"] := rfl

end Sso.Forward
