import SsoSpec.Lemmas.Singleflight
import SsoModel.SfWrappers
import SsoSpec.Lemmas.Keys
import Generated.Facts

/-!
# C16 — request coalescing never changes an answer

Group-level theorems hold in every reachable state of the LTS: any number of threads and keys, every
interleaving at critical-section granularity (including arrivals in the window between the leader's
`wg.Done()` and its `delete`).
-/
namespace Sso.Singleflight

/-- A key has at most one leader, be it still executing `fn` or between `wg.Done()` and `delete`. -/
theorem leader_unique (s : S) (hr : Reachable s) {t₁ t₂ : Nat} {k : Key} {c₁ c₂ : Nat}
    (h₁ : s.thr t₁ = .running k c₁ ∨ s.thr t₁ = .afterFn k c₁)
    (h₂ : s.thr t₂ = .running k c₂ ∨ s.thr t₂ = .afterFn k c₂) : t₁ = t₂ ∧ c₁ = c₂ := by
  have inv := reachable_inv s hr
  have ⟨a, la⟩ := inv.leads h₁
  have ⟨b, lb⟩ := inv.leads h₂
  cases Option.some.inj (a.symm.trans b)
  exact ⟨la.symm.trans lb, rfl⟩

/-- For every key at most one execution of `fn` is in flight. -/
theorem C16_one_execution_per_key (s : S) (hr : Reachable s) (t₁ t₂ : Nat) (k : Key) (c₁ c₂ : Nat)
    (h₁ : s.thr t₁ = .running k c₁) (h₂ : s.thr t₂ = .running k c₂) : t₁ = t₂ ∧ c₁ = c₂ :=
  leader_unique s hr (.inl h₁) (.inl h₂)

/-- There is exactly one completed execution per call, and it is the leader's. -/
theorem C16_one_execution_per_call (s : S) (hr : Reachable s) (c l₁ l₂ : Nat) (v₁ v₂ : Val)
    (h₁ : (c, l₁, v₁) ∈ s.execs) (h₂ : (c, l₂, v₂) ∈ s.execs) : l₁ = l₂ ∧ v₁ = v₂ :=
  have inv := reachable_inv s hr
  have ⟨_, va, la⟩ := (inv.execs_iff c l₁ v₁).1 h₁
  have ⟨_, vb, lb⟩ := (inv.execs_iff c l₂ v₂).1 h₂
  ⟨la.symm.trans lb, Option.some.inj (va.symm.trans vb)⟩

/-- Every caller that joined a call returns exactly what that call's single execution returned
(value or error), with count 0; the leader returns the same result. -/
theorem C16_joined_get_leaders_result (s : S) (hr : Reachable s) (t c : Nat) (v : Val) (n : Nat)
    (h : s.thr t = .returned c false v n) :
    n = 0 ∧ (t, c) ∈ s.joinLog ∧ ∃ l, (c, l, v) ∈ s.execs ∧
      ∀ t' v' n', s.thr t' = .returned c true v' n' → t' = l ∧ v' = v :=
  have inv := reachable_inv s hr
  have ⟨h0, hj, l, hl⟩ := inv.thr h
  ⟨h0, hj, l, hl, fun t' v' _ h' => C16_one_execution_per_call s hr c t' l v' v (inv.thr h').2.1 hl⟩

/-- The first caller is told how many joined: the count it returns is the number of threads that
joined that call — ever: nobody can join after the key was removed. -/
theorem C16_leader_count_eq_joined (s : S) (hr : Reachable s) (t c : Nat) (v : Val) (n : Nat)
    (h : s.thr t = .returned c true v n) : n = joins s.joinLog c :=
  ((reachable_inv s hr).thr h).1

/-- Once the leader has returned, its call is gone from the table for good … -/
theorem C16_after_return_gone (s : S) (hr : Reachable s) (t c : Nat) (v : Val) (n : Nat)
    (h : s.thr t = .returned c true v n) : ∀ k, s.calls k ≠ some c :=
  ((reachable_inv s hr).thr h).2.2

/-- … and right after the leader's removal the next arrival for that key executes afresh. -/
theorem C16_after_return_fresh (s : S) (t t' : Nat) (k : Key) (c : Nat)
    (ht : s.thr t = .afterFn k c) (hc : canArrive ((step s (.remove t)).1.thr t') = true) :
    (step (step s (.remove t)).1 (.arrive t' k)).2 = .leader s.next := by
  simp only [step, ht] at hc ⊢
  simp only [hc, updK_self, ↓reduceIte]

/-- Calls with different keys never share: a thread only ever waits on / runs a call of the key it asked for. -/
theorem C16_different_keys_never_share (s : S) (hr : Reachable s) (t : Nat) (k : Key) (c : Nat)
    (h : s.thr t = .waiting k c ∨ s.thr t = .running k c ∨ s.thr t = .afterFn k c) : (s.recs c).key = k := by
  have inv := reachable_inv s hr
  rcases h with h | h
  · exact (inv.thr h).1
  · exact (inv.calls_ok k c (inv.leads h).1).2

/-- A follower is never blocked forever by its own call: once the execution completed, `wake` is enabled. -/
theorem C16_follower_wakes_after_done (s : S) (t : Nat) (k : Key) (c : Nat) (v : Val)
    (h : s.thr t = .waiting k c) (hv : (s.recs c).val = some v) : (step s (.wake t)).2 = .ret v 0 := by
  simp [step, h, hv]

def exRun : List Ev :=
  [.arrive 0 "a", .arrive 1 "a", .arrive 2 "b", .fnReturn 0 7, .arrive 3 "a", .remove 0, .wake 1, .wake 3,
   .arrive 4 "a", .fnReturn 2 9, .remove 2]

example : (runState S.init exRun).thr 0 = .returned 0 true 7 2 := rfl
example : (runState S.init exRun).thr 1 = .returned 0 false 7 0 := rfl
example : (runState S.init exRun).thr 3 = .returned 0 false 7 0 := rfl   -- joined in the done/remove window
example : (runState S.init exRun).thr 4 = .running "a" 2 := rfl         -- fresh execution
example : Reachable (runState S.init exRun) := ⟨exRun, rfl⟩

/-- Tie (T1): the lock/call skeleton of `Do` is the one the LTS transliterates: join under the lock
(`dups++; Unlock; Wait`), create under the lock, `fn` outside it, publish (`store c.val/c.err; Done`),
then `Lock; delete; Unlock`. -/
theorem C16_skeleton_Do : Sso.Generated.skel_singleflight_Do =
    ["call:Lock", "if{", "call:make", "store:g.m", "}", "if{", "incdec:c.dups++", "call:Unlock", "call:Wait", "return", "}",
     "call:new", "call:Add", "store:g.m[]", "call:Unlock", "call:fn", "store:c.val", "store:c.err", "call:Done",
     "call:Lock", "call:delete", "call:Unlock", "return"] := rfl

end Sso.Singleflight

namespace Sso.SfWrappers

/-- Different endpoints never merge, and within an endpoint different subjects never merge:
the composite key is injective as soon as endpoint names contain no `/`. -/
theorem C16_composite_key_injective {α : Type} (slash : α) (ep₁ ep₂ k₁ k₂ : List α)
    (h₁ : slash ∉ ep₁) (h₂ : slash ∉ ep₂)
    (h : compositeKey slash ep₁ k₁ = compositeKey slash ep₂ k₂) : ep₁ = ep₂ ∧ k₁ = k₂ :=
  List.append_sep_inj slash ep₁ ep₂ k₁ k₂ h₁ h₂ h

/-- The endpoint literals used by both middlewares (regenerated from the source) contain no `/`
and are pairwise distinct within each service. -/
theorem C16_endpoints_slash_free :
    (∀ e ∈ Sso.Generated.sf_endpoints_proxy, '/' ∉ e.toList) ∧
    (∀ e ∈ Sso.Generated.sf_endpoints_auth, '/' ∉ e.toList) ∧
    Sso.Generated.sf_endpoints_proxy.Nodup ∧ Sso.Generated.sf_endpoints_auth.Nodup := by
  simp [Sso.Generated.sf_endpoints_proxy, Sso.Generated.sf_endpoints_auth]

/-- The key expression of every coalesced method, as written in the source. -/
theorem C16_key_shapes :
    Sso.Generated.sf_keys_proxy =
      [("UserGroups", "fmt.Sprintf(\"%s:%s\",email,strings.Join(groups,\",\"))"),
       ("ValidateSessionState", "s.AccessToken"), ("RefreshSession", "s.RefreshToken")] ∧
    Sso.Generated.sf_keys_auth =
      [("ValidateSessionState", "s.AccessToken"), ("RefreshSessionIfNeeded", "s.RefreshToken"),
       ("ValidateGroupMembership", "fmt.Sprintf(\"%s:%s\",email,strings.Join(allowedGroups,\",\"))"),
       ("Revoke", "s.AccessToken"), ("RefreshAccessToken", "refreshToken")] ∧
    Sso.Generated.sf_do_key = "fmt.Sprintf(\"%s/%s\",endpoint,key)" := ⟨rfl, rfl, rfl⟩

/-- Membership questions merge only for the same user and the same (sorted) group list — **provided**
the email contains no `:` and group names are non-empty and comma-free. -/
theorem C16_membership_key_injective {α : Type} (colon comma : α) (e₁ e₂ : List α) (g₁ g₂ : List (List α))
    (he₁ : colon ∉ e₁) (he₂ : colon ∉ e₂)
    (hg₁ : ∀ g ∈ g₁, g ≠ [] ∧ comma ∉ g) (hg₂ : ∀ g ∈ g₂, g ≠ [] ∧ comma ∉ g)
    (h : membershipKey colon comma e₁ g₁ = membershipKey colon comma e₂ g₂) : e₁ = e₂ ∧ g₁ = g₂ := by
  unfold membershipKey at h
  have := List.append_sep_inj colon e₁ e₂ _ _ he₁ he₂ h
  exact ⟨this.1, joinWith_injective comma g₁ g₂ hg₁ hg₂ this.2⟩

/-- The side conditions are needed: without them different questions collide (recorded in
DESIGN.md §6 as read-only finding; unreachable with real e-mail addresses and IdP group names). -/
theorem C16_membership_key_collides :
    membershipKey ':' ',' "x:y".toList ["z".toList] = membershipKey ':' ',' "x".toList ["y:z".toList] ∧
    membershipKey ':' ',' "u".toList ["a,b".toList] = membershipKey ':' ',' "u".toList ["a".toList, "b".toList] := by
  decide

/-! ### Session updates of merged callers -/

/-- Methods whose closure writes nothing through a captured pointer: a merged caller ends up with
exactly the leader's answer. -/
theorem C16_partial_pure_methods_same_answer {β : Type} (inner : β) :
    pureSF inner (some (pureSF inner none)) = pureSF inner none := rfl

/-- For the session-mutating methods the *leader's* session carries the provider's updates … -/
theorem C16_partial_leader_updated (inner : Sess → Sess × Bool) (s : Sess) :
    mutatingSF inner .leader s = inner s := rfl

/-- … and a follower gets the leader's boolean … -/
theorem C16_partial_follower_same_verdict (inner : Sess → Sess × Bool) (s₁ s₂ : Sess) :
    (mutatingSF inner (.follower (mutatingSF inner .leader s₁).2) s₂).2 = (inner s₁).2 := rfl

/-- … and its own session comes back exactly as it went in — every field, the hard lifetime deadline included: whatever the
executed call learnt about the *leader's* session is never written into another caller's (two sessions of one user share
tokens, and therefore coalescing keys, but not lifetimes, hosts or groups). -/
theorem C16_follower_session_untouched (inner : Sess → Sess × Bool) (r : Bool) (s : Sess) :
    (mutatingSF inner (.follower r) s).1 = s := rfl

/-- … but **not** the session updates (new deadlines, groups, token, grace start). Full-strength C16
(last sentence) is refuted by this model, which the correspondence check shows is what the code does:
KNOWN FINDING `sf-follower-session`. -/
theorem C16_follower_same_updates_refuted :
    ¬ ∀ (inner : Sess → Sess × Bool) (s₁ s₂ : Sess), s₁ = s₂ →
        (mutatingSF inner (.follower (mutatingSF inner .leader s₁).2) s₂).1 = (mutatingSF inner .leader s₁).1 := by
  intro h
  have := h (fun s => ({ s with valid := s.valid + 60, groups := ["g"] }, true))
    ⟨"tok", "r", 0, 0, none, []⟩ ⟨"tok", "r", 0, 0, none, []⟩ rfl
  simp [mutatingSF] at this

/-- Tie (T1): `do` of both middlewares. -/
theorem C16_wiring :
    Sso.Generated.skel_proxy_sf_do =
      ["call:Sprintf", "call:Do", "if{", "}", "return"] ∧
    Sso.Generated.skel_auth_sf_do =
      ["call:Sprintf", "call:Do", "if{", "}", "return"] := ⟨rfl, rfl⟩

/-- Tie (T1): the constructors and option functions that hand configured values to the components this property
speaks about (proxy_newProvider, auth_newProvider). -/
theorem C16_wiring3 :
    Sso.Generated.skel_proxy_newProvider =
      ["call:Parse", "if{", "return", "}", "if{", "call:Parse", "if{", "return", "}", "}", "call:New", "call:NewSingleFlightProvider", "return"] ∧
    Sso.Generated.skel_auth_newProvider =
      ["switch{", "case providers.GoogleProviderName{", "call:NewGoogleProvider", "if{", "return", "}", "call:NewFillCache", "store:googleProvider.GroupsCache", "call:NewSingleFlightProvider", "}", "case providers.OktaProviderName{", "call:NewOktaProvider", "if{", "return", "}", "call:NewGroupCache", "call:NewSingleFlightProvider", "}", "case providers.AmazonCognitoProviderName{", "call:NewAmazonCognitoProvider", "if{", "return", "}", "call:NewFillCache", "store:amazonCognitoProvider.GroupsCache", "call:NewSingleFlightProvider", "}", "case \"test\"{", "call:NewTestProvider", "return", "}", "default{", "call:Errorf", "return", "}", "}", "return"] := ⟨rfl, rfl⟩

end Sso.SfWrappers
