import SsoSpec.C04
import Generated.Facts

/-!
# C05 — outage grace is bounded: only 429/503, only the grace TTL from the first failure
-/
namespace Sso.Proxy
open Sso.Validators

/-- Tie (T1): the status set the model calls "unavailable" is the one `isProviderUnavailable` tests for. -/
theorem C05_unavailable_set : ∀ n, unavailable n = true ↔ n ∈ Sso.Generated.unavailableStatuses := by
  intro n
  simp [unavailable, Sso.Generated.unavailableStatuses]

/-- **Grace only for 429/503.** A due check that lets the request through without the authenticator's confirmation
did so because `/refresh`, `/validate` or `/profile` answered with an *unavailable* status — never for any other
status, a transport error or a malformed body — and the grace window was open. -/
theorem C05_grace_only_unavailable (P : Policy) (now : Int) (s : Sess) (a : Ans) :
    (refreshWhy P now s a = some .grace →
        ((∃ n, a.refresh = .status n ∧ unavailable n = true) ∨
         ((∃ t, a.refresh = .ok t) ∧ ∃ n, a.profile = .status n ∧ unavailable n = true)) ∧ (withinGrace s P.G now).2 = true) ∧
    (validateWhy P now s a = some .grace →
        ((∃ n, a.validate = .status n ∧ unavailable n = true) ∨ (∃ n, a.profile = .status n ∧ unavailable n = true)) ∧
        (withinGrace s P.G now).2 = true) := by
  -- the group verdict is read the same way by both checks
  have viaGroup {W : Type} {g : W} {o : Option W} (ho : o ≠ some g)
      (h : (match (validateGroup P.allowedGroups a).1 with
        | .ok _ true => o
        | .unavail => if (withinGrace s P.G now).2 then some g else none
        | _ => none) = some g) :
      (∃ n, a.profile = .status n ∧ unavailable n = true) ∧ (withinGrace s P.G now).2 = true := by
    split at h
    · exact absurd h ho
    · next hg =>
      split at h
      · exact ⟨validateGroup_unavail _ _ hg, ‹_›⟩
      · cases h
    · cases h
  constructor <;> intro h
  · unfold refreshWhy at h
    split at h
    · cases h
    cases hr : a.refresh <;> simp only [hr] at h
    · exact ⟨.inr ⟨⟨_, rfl⟩, (viaGroup (by simp) h).1⟩, (viaGroup (by simp) h).2⟩
    · split at h
      · exact ⟨.inl ⟨_, rfl, ‹_ ∧ _›.1⟩, ‹_ ∧ _›.2⟩
      · cases h
    · cases h
    · cases h
  · unfold validateWhy at h
    cases hr : a.validate <;> simp only [hr] at h
    · exact ⟨.inr (viaGroup (by simp) h).1, (viaGroup (by simp) h).2⟩
    · split at h
      · exact ⟨.inl ⟨_, rfl, ‹_ ∧ _›.1⟩, ‹_ ∧ _›.2⟩
      · cases h
    · cases h
    · exact ⟨.inr (viaGroup (by simp) h).1, (viaGroup (by simp) h).2⟩

/-- **The window.** Grace is open exactly while `now < start + G`, where `start` is the stamped start of the current
outage, or `now` if this is its first failure; a grace-served check keeps that start (it is never re-stamped), so the
window is counted from the *first* unavailable answer of the episode; with `G = 0` there is no grace at all. -/
theorem C05_grace_window (s : Sess) (G now : Int) :
    ((withinGrace s G now).2 = true ↔ s.grace.getD now + G > now) ∧
    (withinGrace s G now).1.grace = some (s.grace.getD now) ∧
    (∀ g, s.grace = some g → (withinGrace s G now).1.grace = some g) ∧
    (G ≤ 0 → s.grace = none → (withinGrace s G now).2 = false) := by
  refine ⟨withinGrace_snd s G now, rfl, fun g h => ?_, fun hG h => ?_⟩
  · simp [withinGrace, h]
  · simp [withinGrace, h]; omega

/-- A grace-served refresh extends the *refresh* deadline by the validity TTL (not the token TTL) and keeps the start;
a grace-served revalidation extends the validity deadline by `V` and keeps the start. -/
theorem C05_grace_step_effect (P : Policy) (now : Int) (s : Sess) (a : Ans) :
    (refreshWhy P now s a = some .grace →
        (refreshSession P now s a).1.grace = some (s.grace.getD now) ∧ (refreshSession P now s a).1.refresh = now + P.V ∧
        (refreshSession P now s a).1.access = s.access) ∧
    (validateWhy P now s a = some .grace →
        (validateSession P now s a).1.grace = some (s.grace.getD now) ∧ (validateSession P now s a).1.valid = now + P.V) := by
  constructor <;> intro h
  · have hs := refreshSession_spec P now s a
    simp only [h] at hs
    simp [hs.2]
  · have hs := validateSession_spec P now s a
    simp only [h] at hs
    simp [hs.2]

/-- **One successful check ends the episode**: the re-sealed session has no grace start, so the next outage stamps a new one. -/
theorem C05_success_resets (P : Policy) (now : Int) (s : Sess) (a : Ans) :
    (refreshWhy P now s a = some .confirmed → (refreshSession P now s a).1.grace = none) ∧
    (validateWhy P now s a = some .confirmed → (validateSession P now s a).1.grace = none) := by
  constructor <;> intro h
  · have hs := refreshSession_spec P now s a
    simp only [h] at hs
    obtain ⟨_, g, tok, ttl, hs⟩ := hs
    simp [hs]
  · have hs := validateSession_spec P now s a
    simp only [h] at hs
    obtain ⟨_, g, hs⟩ := hs
    simp [hs]

/-- **After the window: refused and cleared**; and grace never outlives the lifetime, because the lifetime check
precedes every provider call (C04's bound covers grace-served requests too). -/
theorem C05_grace_expired_refuses (lower : Bytes → Bytes) (P : Policy) (now : Int) (r : ReqIn) (s : Sess) (a : Ans) (g : Int)
    (hw : whitelisted P r = false) (hg : s.grace = some g) (hexp : g + P.G ≤ now)
    (hdue : exp s.refresh now = true ∨ exp s.valid now = true)
    (hun : (∃ n, a.refresh = .status n ∧ unavailable n = true) ∧ (∃ n, a.validate = .status n ∧ unavailable n = true)) :
    (∀ id, (proxy lower P now r (.opens s) a).outcome ≠ .forward id) ∧
    (proxy lower P now r (.opens s) a).writes.getLast? = some .clear := by
  have hwin : (withinGrace s P.G now).2 = false := by simp [withinGrace, hg]; omega
  obtain ⟨⟨n1, h1, u1⟩, ⟨n2, h2, u2⟩⟩ := hun
  apply C04_denied_refuses lower P now r s a hw
  by_cases hr : exp s.refresh now = true
  · exact .inl ⟨hr, by simp [refreshWhy_status h1, hwin]⟩
  · exact .inr ⟨by simpa using hr, hdue.resolve_left hr, by simp [validateWhy_status h2, hwin]⟩

/-- No grace for anything else: a transport error, a malformed body or any status outside {429, 503} at the first
call of a due check refuses the request (instance of C04's `denied_refuses`). -/
theorem C05_no_grace_for_others (lower : Bytes → Bytes) (P : Policy) (now : Int) (r : ReqIn) (s : Sess) (a : Ans)
    (hw : whitelisted P r = false) (hr : exp s.refresh now = false) (hv : exp s.valid now = true)
    (hbad : a.validate = .transport ∨ ∃ n, a.validate = .status n ∧ unavailable n = false) :
    ∀ id, (proxy lower P now r (.opens s) a).outcome ≠ .forward id := by
  apply (C04_denied_refuses lower P now r s a hw ?_).1
  refine .inr ⟨hr, hv, ?_⟩
  rcases hbad with h | ⟨n, h, hu⟩
  · exact validateWhy_transport h
  · simp [validateWhy_status h, hu]

/-! ### Histories: one browser session, one request at a time

The property quantifies over *sequences*: "until the grace TTL has elapsed since the **first** such answer of the current
outage … one successful check ends the episode". The single-step theorems above speak about the `grace` field of the
session; the history theorem below ties that field to a quantity defined from the history alone. -/

/-- how the provider check of a request came out -/
inductive CheckOutcome where
  | noCheck       -- skip-auth request, no check due, or the session was refused before any provider call
  | confirmed     -- the due check was confirmed by the authenticator
  | grace         -- the due check was let through under the outage grace
  | refused       -- the due check failed
  deriving DecidableEq, Repr

def checkOutcome (P : Policy) (now : Int) (r : ReqIn) (s : Sess) (a : Ans) : CheckOutcome :=
  if whitelisted P r then .noCheck
  else if s.slug ≠ P.slug ∨ r.host ≠ s.host ∨ exp s.lifetime now = true then .noCheck
  else if exp s.refresh now then
    (match refreshWhy P now s a with | some .confirmed => .confirmed | some .grace => .grace | none => .refused)
  else if exp s.valid now then
    (match validateWhy P now s a with | some .confirmed => .confirmed | some .grace => .grace | none => .refused)
  else .noCheck

/-- **The first failure of the current outage, defined from the history alone**: set by the first grace-served check
while unset, kept while further checks are grace-served or none is due, forgotten by a confirmed (or refused) check. -/
def episodeAfter (ep : Option Int) (o : CheckOutcome) (now : Int) : Option Int :=
  match o with
  | .noCheck => ep
  | .grace => some (ep.getD now)
  | .confirmed => none
  | .refused => none

structure LStep where
  now : Int
  req : ReqIn
  ans : Ans

/-- the browser's cookie jar after a response: the last `Set-Cookie` wins -/
def jarAfter (c : CookieIn) (ws : List CookieWrite) : CookieIn :=
  match ws.getLast? with
  | some (.save s) => .opens s
  | some .clear => .absent
  | none => c

/-- a linear history: every request presents the cookie the previous response left. For each step: the cookie
presented and the episode start *as the history defines it*. -/
def runL (lower : Bytes → Bytes) (P : Policy) : CookieIn → Option Int → List LStep → List (CookieIn × Option Int × LStep)
  | _, _, [] => []
  | c, ep, st :: t =>
    let o := match c with | .opens s => checkOutcome P st.now st.req s st.ans | _ => .noCheck
    (c, ep, st) :: runL lower P (jarAfter c (proxy lower P st.now st.req c st.ans).writes) (episodeAfter ep o st.now) t

/-- One step of a linear history. If the response leaves a session in the jar, then the request presented one, and what
is left is that session itself (skip-auth request) or what the due check made of it (`afterDue`: the session itself when
nothing was due) after the three gates passed. -/
theorem jar_step {lower : Bytes → Bytes} {P : Policy} {st : LStep} {c : CookieIn} {s' : Sess}
    (h : jarAfter c (proxy lower P st.now st.req c st.ans).writes = .opens s') :
    ∃ s, c = .opens s ∧
      ((whitelisted P st.req = true ∧ s' = s) ∨
       (whitelisted P st.req = false ∧ s.slug = P.slug ∧ st.req.host = s.host ∧ exp s.lifetime st.now = false ∧
        afterDue P st.now s st.ans = some s')) := by
  rw [proxy_writes] at h
  split at h
  · exact ⟨s', by simpa [jarAfter] using h, .inl ⟨‹_›, rfl⟩⟩
  rcases c with _ | _ | s
  · simp [authenticate_absent, jarAfter] at h
  · simp [authenticate_junk, jarAfter] at h
  rcases authenticate_opens lower P st.now st.req.host s st.ans rfl with ⟨_, _, hw⟩ | ⟨s₁, h1, h2, h3, hd, _, hw⟩ <;>
    rw [hw] at h
  · simp [jarAfter] at h
  refine ⟨s, rfl, .inr ⟨by simpa using ‹¬ whitelisted P st.req = true›, h1, h2, h3, ?_⟩⟩
  split at h <;> split at h <;> simp [jarAfter] at h
  · rw [← h, hd]
  · -- nothing was due, so nothing was saved and the jar keeps `s`: `afterDue` is the session itself
    next hdue _ =>
    simp only [not_or, Bool.not_eq_true] at hdue
    subst h
    simp [afterDue, hdue]

theorem step_grace_is_episode {lower : Bytes → Bytes} {P : Policy} {st : LStep} {s s' : Sess}
    (h : jarAfter (.opens s) (proxy lower P st.now st.req (.opens s) st.ans).writes = .opens s') :
    s'.grace = episodeAfter s.grace (checkOutcome P st.now st.req s st.ans) st.now := by
  obtain ⟨_, hc, ⟨hw, rfl⟩ | ⟨hw, h1, h2, h3, hd⟩⟩ := jar_step h <;> cases hc
  · simp [checkOutcome, hw, episodeAfter]
  simp only [checkOutcome, hw, h1, h2, h3, ne_eq, not_true, or_self, Bool.false_eq_true, if_false]
  rcases afterDue_cases hd with ⟨hr, ⟨w, hwy⟩, rfl⟩ | ⟨hr, hv, ⟨w, hwy⟩, rfl⟩ | ⟨hr, hv, rfl⟩
  · cases w
    · simpa [hr, hwy, episodeAfter] using (C05_success_resets P st.now s st.ans).1 hwy
    · simpa [hr, hwy, episodeAfter] using ((C05_grace_step_effect P st.now s st.ans).1 hwy).1
  · cases w
    · simpa [hr, hv, hwy, episodeAfter] using (C05_success_resets P st.now s st.ans).2 hwy
    · simpa [hr, hv, hwy, episodeAfter] using ((C05_grace_step_effect P st.now s st.ans).2 hwy).1
  · simp [hr, hv, episodeAfter]

/-- **Grace start = first failure of the current outage, along every history.** Start from any session whose grace
start agrees with the episode start (a fresh login: both unset). At every step of every linear history — any time gaps,
any answers at `/refresh`, `/validate`, `/profile` — the session presented carries, as its grace start, exactly the time of
the first grace-served check since the last confirmed one. -/
theorem C05_grace_start_is_first_failure (lower : Bytes → Bytes) (P : Policy) (c : CookieIn) (ep : Option Int) (sts : List LStep)
    (h0 : ∀ s, c = .opens s → s.grace = ep) :
    ∀ x ∈ runL lower P c ep sts, ∀ s, x.1 = .opens s → s.grace = x.2.1 := by
  induction sts generalizing c ep with
  | nil => intro x hx; simp [runL] at hx
  | cons st t ih =>
    intro x hx s hs
    simp only [runL, List.mem_cons] at hx
    rcases hx with rfl | hx
    · exact h0 s hs
    · refine ih _ _ (fun s' hs' => ?_) x hx s hs
      obtain ⟨s₀, rfl, _⟩ := jar_step hs'
      exact h0 s₀ rfl ▸ step_grace_is_episode hs'

/-- **Bounded along every history.** A check that is let through under grace at time `now` happens strictly less than
the grace TTL after the first failure of the current outage *as the history defines it* (or is itself that first
failure) — however many requests, refreshes, revalidations and partial recoveries lie in between; with `G = 0` no check
is ever grace-served. -/
theorem C05_grace_bounded_history (lower : Bytes → Bytes) (P : Policy) (s0 : Sess) (sts : List LStep) (h0 : s0.grace = none) :
    ∀ x ∈ runL lower P (.opens s0) none sts, ∀ s, x.1 = .opens s →
      checkOutcome P x.2.2.now x.2.2.req s x.2.2.ans = .grace → x.2.2.now < x.2.1.getD x.2.2.now + P.G := by
  intro x hx s hs hg
  have hep := C05_grace_start_is_first_failure lower P (.opens s0) none sts (by intro s h; cases h; exact h0) x hx s hs
  have hwin : (withinGrace s P.G x.2.2.now).2 = true := by
    unfold checkOutcome at hg
    split at hg; · cases hg
    split at hg; · cases hg
    split at hg
    · rcases hwy : refreshWhy P x.2.2.now s x.2.2.ans with _ | _ | _ <;> rw [hwy] at hg <;> cases hg
      exact ((C05_grace_only_unavailable P x.2.2.now s x.2.2.ans).1 hwy).2
    split at hg
    · rcases hwy : validateWhy P x.2.2.now s x.2.2.ans with _ | _ | _ <;> rw [hwy] at hg <;> cases hg
      exact ((C05_grace_only_unavailable P x.2.2.now s x.2.2.ans).2 hwy).2
    · cases hg
  have := ((C05_grace_window s P.G x.2.2.now).1).1 hwin
  rw [hep] at this
  omega

def exOut : Ans := { refresh := .status 503, validate := .status 503, profile := .status 503 }
-- first failure at t=150 stamps the start; served; at t=700 (< 150+600) still served with the same start; at t=760 refused
example : (proxy id exPol 150 exReq (.opens exSess) exOut).writes = [.save { exSess with valid := 210, grace := some 150 }] := by decide
example : (proxy id exPol 700 exReq (.opens { exSess with valid := 210, refresh := 2000, grace := some 150 }) exOut).outcome
    = .forward (some ⟨"a", [97, 64, 120], [], none⟩) := by decide
example : (proxy id exPol 760 exReq (.opens { exSess with valid := 210, grace := some 150 }) exOut).outcome = .errorPage 500 := by decide
example : (proxy id exPol 150 exReq (.opens exSess) { exOut with validate := .status 500 }).outcome = .errorPage 403 := by decide
-- a history: outage at 150 (first failure), still out at 400 and 700, back at 720 (episode ends), out again at 800 (fresh start)
def exLin : List LStep := [⟨150, exReq, exOut⟩, ⟨400, exReq, exOut⟩, ⟨700, exReq, exOut⟩, ⟨720, exReq, exAns⟩, ⟨800, exReq, exOut⟩]
example : (runL id exPol (.opens exSess) none exLin).map (·.2.1) = [none, some 150, some 150, some 150, none] := by decide
example : (runL id exPol (.opens exSess) none exLin).map (fun x => match x.1 with | .opens s => s.grace | _ => some (-1))
    = [none, some 150, some 150, some 150, none] := by decide
example : (runL id exPol (.opens exSess) none exLin).map (fun x => match x.1 with
    | .opens s => checkOutcome exPol x.2.2.now x.2.2.req s x.2.2.ans | _ => .noCheck) = [.grace, .grace, .grace, .confirmed, .grace] := by decide

/-- outcome and time of one executed step of a linear history -/
def outcomeOf (P : Policy) (x : CookieIn × Option Int × LStep) : CheckOutcome × Int :=
  (match x.1 with | .opens s => checkOutcome P x.2.2.now x.2.2.req s x.2.2.ans | _ => .noCheck, x.2.2.now)

theorem episodeAfter_some {ep : Option Int} {o : CheckOutcome} {now g : Int} (h : episodeAfter ep o now = some g) :
    (ep = some g ∧ (o = .grace ∨ o = .noCheck)) ∨ (ep = none ∧ o = .grace ∧ now = g) := by
  cases o <;> cases ep <;> simp_all [episodeAfter]

/-- **What the history-defined episode start means.** If the episode start at step `i` of a linear history is `g`, then either
it was `g` at the outset and every check before `i` was grace-served or not due, or some earlier step `j` was a check at time
`g` that was grace-served, and every check strictly between `j` and `i` was grace-served or not due — no confirmation, no
refusal in between. -/
theorem runL_episode_origin (lower : Bytes → Bytes) (P : Policy) (c : CookieIn) (ep : Option Int) (sts : List LStep) (i : Nat)
    (x : CookieIn × Option Int × LStep) (g : Int) (hx : (runL lower P c ep sts)[i]? = some x) (hg : x.2.1 = some g) :
    (ep = some g ∧ ∀ k z, k < i → (runL lower P c ep sts)[k]? = some z →
      (outcomeOf P z).1 = .grace ∨ (outcomeOf P z).1 = .noCheck) ∨
    (∃ j y, j < i ∧ (runL lower P c ep sts)[j]? = some y ∧ outcomeOf P y = (.grace, g) ∧
      ∀ k z, j < k → k < i → (runL lower P c ep sts)[k]? = some z →
        (outcomeOf P z).1 = .grace ∨ (outcomeOf P z).1 = .noCheck) := by
  induction sts generalizing c ep i with
  | nil => simp [runL] at hx
  | cons st t ih =>
    rcases i with _ | i
    · simp only [runL, List.getElem?_cons_zero, Option.some.injEq] at hx
      subst hx
      exact .inl ⟨hg, fun k z hk => absurd hk (Nat.not_lt_zero k)⟩
    simp only [runL, List.getElem?_cons_succ] at hx ⊢
    generalize ho : (match c with | .opens s => checkOutcome P st.now st.req s st.ans | _ => .noCheck) = o at hx
    have hhead : outcomeOf P (c, ep, st) = (o, st.now) := by rw [← ho]; rfl
    rcases ih _ _ i hx with ⟨hep, hall⟩ | ⟨j, y, hj, hy, hyo, hbetween⟩
    · -- the tail saw `g` from its outset: the head step kept it, or stamped it
      rcases episodeAfter_some hep with ⟨h1, h2⟩ | ⟨_, rfl, rfl⟩
      · refine .inl ⟨h1, fun k z hk hz => ?_⟩
        rcases k with _ | k
        · cases hz; rw [hhead]; exact h2
        · exact hall k z (Nat.lt_of_succ_lt_succ hk) hz
      · refine .inr ⟨0, _, Nat.succ_pos i, rfl, hhead, fun k z h1 h2 hz => ?_⟩
        obtain ⟨k, rfl⟩ := Nat.exists_eq_succ_of_ne_zero (Nat.ne_of_gt h1)
        exact hall k z (Nat.lt_of_succ_lt_succ h2) hz
    · refine .inr ⟨j + 1, y, Nat.succ_lt_succ hj, hy, hyo, fun k z h1 h2 hz => ?_⟩
      obtain ⟨k, rfl⟩ := Nat.exists_eq_succ_of_ne_zero (Nat.ne_of_gt (Nat.lt_of_le_of_lt (Nat.zero_le _) h1))
      exact hbetween k z (Nat.lt_of_succ_lt_succ h1) (Nat.lt_of_succ_lt_succ h2) hz

/-- **C05 along histories, spelled out.** Whenever a check is grace-served at step `i` of a linear history that began with a
fresh session, there is a step `j ≤ i` — the first failure of the current outage — that was itself grace-served with no
episode open, such that every step strictly between `j` and `i` was grace-served or needed no check (no confirmed check,
no refusal in between), and step `i` happens strictly less than the grace TTL after step `j`. -/
theorem C05_grace_counts_from_first_failure (lower : Bytes → Bytes) (P : Policy) (s0 : Sess) (sts : List LStep) (h0 : s0.grace = none)
    (i : Nat) (x : CookieIn × Option Int × LStep) (hx : (runL lower P (.opens s0) none sts)[i]? = some x)
    (hg : (outcomeOf P x).1 = .grace) :
    ∃ j, j ≤ i ∧ ∃ y, (runL lower P (.opens s0) none sts)[j]? = some y ∧ (outcomeOf P y).1 = .grace ∧
      x.2.2.now < y.2.2.now + P.G ∧
      ∀ k z, j < k → k < i → (runL lower P (.opens s0) none sts)[k]? = some z → (outcomeOf P z).1 = .grace ∨ (outcomeOf P z).1 = .noCheck := by
  have hmem : x ∈ runL lower P (.opens s0) none sts := List.mem_of_getElem? hx
  obtain ⟨s, hs⟩ : ∃ s, x.1 = .opens s := by
    unfold outcomeOf at hg
    cases hc : x.1 <;> simp only [hc] at hg <;> first | cases hg | exact ⟨_, rfl⟩
  have hgs : checkOutcome P x.2.2.now x.2.2.req s x.2.2.ans = .grace := by
    unfold outcomeOf at hg; rw [hs] at hg; exact hg
  have hb := C05_grace_bounded_history lower P s0 sts h0 x hmem s hs hgs
  cases hxe : x.2.1 with
  | none =>
    -- this very step is the first failure
    exact ⟨i, Nat.le_refl _, x, hx, hg, by simpa [hxe] using hb, fun k z h1 h2 => absurd h1 (Nat.lt_asymm h2)⟩
  | some g =>
    rcases runL_episode_origin lower P _ _ sts i x g hx hxe with ⟨h, _⟩ | ⟨j, y, hj, hy, hyo, hbetween⟩
    · cases h
    · have hyt : y.2.2.now = g := congrArg Prod.snd hyo
      exact ⟨j, Nat.le_of_lt hj, y, hy, congrArg Prod.fst hyo, by simpa [hxe, hyt] using hb, hbetween⟩

/-- Tie (T1): the grace predicate (stamps the start on first use) and the deadline helpers. -/
theorem C05_wiring :
    Sso.Generated.skel_sessions_IsWithinGracePeriod =
      ["call:IsZero", "if{", "call:Now", "store:s.GracePeriodStart", "}", "call:Now", "call:Add", "call:After", "return"] ∧
    Sso.Generated.skel_sessions_isExpired =
      ["call:Now", "call:Before", "if{", "return", "}", "return"] ∧
    Sso.Generated.skel_sessions_ExtendDeadline =
      ["call:Now", "call:Add", "call:Truncate", "return"] := ⟨rfl, rfl, rfl⟩

/-- Tie (T1): helpers, stores and second callers on this property's path (sso_isProviderUnavailable). -/
theorem C05_wiring2 :
    Sso.Generated.skel_sso_isProviderUnavailable =
      ["return"] := rfl

/-- Tie (T1): the decoder tags of sso-proxy's configuration structs (`internal/proxy/configuration.go`): the names under which the environment and the files reach each
setting this property depends on. -/
theorem C05_tags_proxyConfigTags : Sso.Generated.proxyConfigTags =
    ["Configuration.ServerConfig mapstructure:\"server\"", "Configuration.ProviderConfig mapstructure:\"provider\"", "Configuration.ClientConfig mapstructure:\"client\"", "Configuration.SessionConfig mapstructure:\"session\"", "Configuration.UpstreamConfigs mapstructure:\"upstream\"", "Configuration.MetricsConfig mapstructure:\"metrics\"", "Configuration.LoggingConfig mapstructure:\"logging\"", "Configuration.RequestSignerConfig mapstructure:\"requestsigner\"", "ProviderConfig.ProviderType mapstructure:\"type\"", "ProviderConfig.Scope mapstructure:\"scope\"", "ProviderConfig.ProviderURLConfig mapstructure:\"url\"", "ProviderURLConfig.External mapstructure:\"external\"", "ProviderURLConfig.Internal mapstructure:\"internal\"", "SessionConfig.CookieConfig mapstructure:\"cookie\"", "SessionConfig.TTLConfig mapstructure:\"ttl\"", "CookieConfig.Name mapstructure:\"name\"", "CookieConfig.Secret mapstructure:\"secret\"", "CookieConfig.Expire mapstructure:\"expire\"", "CookieConfig.Domain mapstructure:\"domain\"", "CookieConfig.Secure mapstructure:\"secure\"", "CookieConfig.HTTPOnly mapstructure:\"httponly\"", "TTLConfig.Lifetime mapstructure:\"lifetime\"", "TTLConfig.Valid mapstructure:\"valid\"", "TTLConfig.GracePeriod mapstructre:\"grace_period\"", "ClientConfig.ID mapstructure:\"id\"", "ClientConfig.Secret mapstructure:\"secret\"", "ServerConfig.Port mapstructure:\"port\"", "ServerConfig.TimeoutConfig mapstructure:\"timeout\"", "TimeoutConfig.Write mapstructure:\"write\"", "TimeoutConfig.Read mapstructure:\"read\"", "TimeoutConfig.Shutdown mapstructure:\"shutdown\"", "MetricsConfig.StatsdConfig mapstructure:\"statsd\"", "StatsdConfig.Port mapstructure:\"port\"", "StatsdConfig.Host mapstructure:\"host\"", "LoggingConfig.Enable mapstructure:\"enable\"", "UpstreamConfigs.DefaultConfig mapstructure:\"default\"", "UpstreamConfigs.ConfigsFile mapstructure:\"configfile\"", "UpstreamConfigs.testTemplateVars ", "UpstreamConfigs.upstreamConfigs ", "UpstreamConfigs.Cluster mapstructure:\"cluster\"", "UpstreamConfigs.Scheme mapstructure:\"scheme\"", "DefaultConfig.EmailConfig mapstructure:\"email\"", "DefaultConfig.AllowedGroups mapstructure:\"groups\"", "DefaultConfig.ProviderSlug mapstructure:\"provider\"", "DefaultConfig.Timeout mapstructure:\"timeout\"", "DefaultConfig.ResetDeadline mapstructure:\"resetdeadline\"", "EmailConfig.AllowedDomains mapstructure:\"domains\"", "EmailConfig.AllowedAddresses mapstructure:\"addresses\"", "RequestSignerConfig.Key mapstructure:\"key\""] := rfl

/-- Tie (T1): the constructors and option functions that hand configured values to the components this property
speaks about (proxy_newProvider). -/
theorem C05_wiring3 :
    Sso.Generated.skel_proxy_newProvider =
      ["call:Parse", "if{", "return", "}", "if{", "call:Parse", "if{", "return", "}", "}", "call:New", "call:NewSingleFlightProvider", "return"] := rfl

end Sso.Proxy
