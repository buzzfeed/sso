import Generated.Facts
import SsoSpec.C02
import SsoSpec.C01

/-!
# C06 — the proxy's login callback is bound to the browser's own flow and returns same-site
-/
namespace Sso.Proxy
open Sso.Validators

/-- **A session is set only if** the request carries no `error`, a code the authenticator redeems to a non-empty
e-mail, a state parameter and a CSRF cookie that both open under the proxy's secret, are different strings, and open to
the same flow record, and the user passes the upstream's rules (any-of); the session is bound to the request's Host and
the browser is sent to exactly the URI recorded in the flow record. -/
theorem C06_callback_sets_session_only_if (lower : Bytes → Bytes) (P : Policy) (now : Int) (i : CbIn) (s : Sess) (loc : String)
    (h : (oauthCallback lower P now i).1 = .login s loc) :
    i.errorParam = "" ∧ i.code ≠ "" ∧
    ∃ r, i.redeem = .ok r ∧ r.email ≠ [] ∧
    ∃ sid, i.state = .flow sid loc ∧ i.csrf = .flow sid loc ∧ i.sameString = false ∧
      loginAdmits lower P.rules r.email i.group = true ∧
      s.host = i.host ∧ s.email = r.email ∧ s.slug = P.slug ∧ s.lifetime = now + P.L ∧ s.valid = now + P.V := by
  revert h
  fun_cases oauthCallback lower P now i <;> intro h <;> cases h
  -- only the last branch returns `.login`; every gate's condition is in the context
  simp_all [mintSession]

/-- In every other case no session cookie is set: the only outcomes are `login` (above) and an error page. -/
theorem C06_otherwise_no_session (lower : Bytes → Bytes) (P : Policy) (now : Int) (i : CbIn) :
    (∃ s loc, (oauthCallback lower P now i).1 = .login s loc) ∨ (∃ c, (oauthCallback lower P now i).1 = .errorPage c) := by
  cases h : (oauthCallback lower P now i).1 with
  | login s loc => exact Or.inl ⟨s, loc, rfl⟩
  | errorPage c => exact Or.inr ⟨c, rfl⟩

/-- State from flow A with the cookie of flow B, or a replayed state with a newer cookie: rejected. -/
theorem C06_cross_flow_rejected (lower : Bytes → Bytes) (P : Policy) (now : Int) (i : CbIn) (sa ua sb ub : String)
    (hs : i.state = .flow sa ua) (hc : i.csrf = .flow sb ub) (hne : sa ≠ sb ∨ ua ≠ ub) :
    ∀ s loc, (oauthCallback lower P now i).1 ≠ .login s loc := by
  intro s loc h
  obtain ⟨_, _, _, _, _, sid, h1, h2, _⟩ := C06_callback_sets_session_only_if lower P now i s loc h
  rw [hs] at h1; rw [hc] at h2
  cases h1; cases h2
  rcases hne with h | h <;> exact h rfl

/-- "Different ciphertexts": two sealed values that are different *strings* decode to different (ciphertext, nonce)
pairs — this is where the canonical-base64 fix of C02 is needed (before it, `state = cookie ++ "\n"` passed the string
comparison with the same ciphertext). -/
theorem C06_distinct_strings_distinct_ciphertexts (s₁ s₂ j₁ j₂ : List Nat)
    (h₁ : Sso.Base64.decodeCanonical s₁ = some j₁) (h₂ : Sso.Base64.decodeCanonical s₂ = some j₂) (hne : s₁ ≠ s₂) : j₁ ≠ j₂ :=
  Sso.Seal.C02_distinct_strings_distinct_seals s₁ s₂ j₁ j₂ h₁ h₂ hne

/-- `OAuthStart` seals the same flow record twice with independent nonces: the state parameter and the CSRF cookie it
hands out are different strings that open to the same record (so the genuine flow passes the callback's two checks). -/
theorem C06_start_hands_out_matching_pair {V : Type} (A : Sso.Seal.AEAD) (C : Sso.Seal.Codec V) (k : Sso.Seal.Key) (rec : V)
    (n₁ n₂ : List Nat) (b₁ : Sso.Base64.Bytes n₁) (b₂ : Sso.Base64.Bytes n₂)
    (l₁ : n₁.length = Sso.Seal.nonceSize) (l₂ : n₂.length = Sso.Seal.nonceSize) (hne : n₁ ≠ n₂) :
    Sso.Seal.marshal A C k rec n₁ ≠ Sso.Seal.marshal A C k rec n₂ ∧
    Sso.Seal.unmarshal A C k (Sso.Seal.marshal A C k rec n₁) = some rec ∧
    Sso.Seal.unmarshal A C k (Sso.Seal.marshal A C k rec n₂) = some rec :=
  ⟨Sso.Seal.C02_fresh_nonce_fresh_string A C k rec n₁ n₂ b₁ b₂ l₁ l₂ hne,
   (Sso.Seal.C02_unmarshal_marshal A C k rec n₁ b₁ l₁).1, (Sso.Seal.C02_unmarshal_marshal A C k rec n₂ b₂ l₂).1⟩

def exCb : CbIn :=
  { host := "app.x", errorParam := "", code := "c", redeem := .ok ⟨[97, 64, 120], "a", "at", "rt", 600⟩,
    state := .flow "sid" "/deep?x=1", csrf := .flow "sid" "/deep?x=1", sameString := false, group := .error, groupsIn := [] }
example : ∃ s, (oauthCallback id exPol 0 exCb).1 = .login s "/deep?x=1" := ⟨_, rfl⟩
example : (oauthCallback id exPol 0 { exCb with csrf := .flow "other" "/deep?x=1" }).1 = .errorPage 400 := rfl
example : (oauthCallback id exPol 0 { exCb with sameString := true }).1 = .errorPage 400 := rfl

/-- Tie (T1): the proxy's provider middleware passes `Redeem` straight through — redemption of a callback's code is **not**
coalesced with any other callback's, so the session a callback sets is the one *its own* code was redeemed for. -/
theorem C06_redeem_not_coalesced : Sso.Generated.skel_proxy_sf_Redeem = ["call:Redeem", "return"] := rfl

/-! ### histories: which flow a successful callback completes -/

/-- no `/start`, and no callback that set a session -/
def PUntouched (lower : Bytes → Bytes) (P : Policy) : Sealed → List PEv → Prop
  | _, [] => True
  | _, .start _ _ :: _ => False
  | jar, .callback now i :: t => isLogin (callbackWith lower P jar now i) = false ∧ PUntouched lower P jar t

theorem pjar_flow_origin (lower : Bytes → Bytes) (P : Policy) (evs : List PEv) (j0 : Sealed) (sid uri : String)
    (h : evs.foldl (pJarStep lower P) j0 = .flow sid uri) :
    (∃ before after, evs = before ++ .start sid uri :: after ∧ PUntouched lower P (.flow sid uri) after) ∨
    (j0 = .flow sid uri ∧ PUntouched lower P j0 evs) := by
  induction evs generalizing j0 with
  | nil => right; exact ⟨by simpa using h, trivial⟩
  | cons ev t ih =>
    simp only [List.foldl_cons] at h
    rcases ih _ h with ⟨b, a, ht, ha⟩ | ⟨hj, ht⟩
    · left; exact ⟨ev :: b, a, by simp [ht], ha⟩
    · cases ev with
      | start s u =>
        simp only [pJarStep] at hj ht
        cases hj
        left; exact ⟨[], t, by simp, ht⟩
      | callback now i =>
        simp only [pJarStep] at hj ht
        by_cases hc : isLogin (callbackWith lower P j0 now i) = true
        · simp [hc] at hj
        · simp only [hc, Bool.false_eq_true, if_false] at hj ht
          right
          exact ⟨hj, by simpa using hc, ht⟩

/-- **A successful callback completes the flow this browser started last.** Along every history of one browser at one upstream
(any number of `/start`s, any callbacks with any state, code and error parameters, replays included): when a callback sets a
session, its `state` opens to the flow record of the most recent `/start`, no callback has set a session since, and the browser
is sent to the URI that `/start` recorded. -/
theorem C06_callback_completes_outstanding_start (lower : Bytes → Bytes) (P : Policy) (pre : List PEv) (now : Int) (i : CbIn)
    (s : Sess) (loc : String) (h : callbackWith lower P (pJarOf lower P pre) now i = .login s loc) :
    ∃ sid before after, i.state = .flow sid loc ∧ pre = before ++ .start sid loc :: after ∧
      PUntouched lower P (.flow sid loc) after := by
  obtain ⟨_, _, r, _, _, sid, hst, hcs, _⟩ := C06_callback_sets_session_only_if lower P now _ s loc h
  have hj : pJarOf lower P pre = .flow sid loc := by simpa using hcs
  rcases pjar_flow_origin lower P pre .absent sid loc hj with ⟨b, a, hp, ha⟩ | ⟨h0, _⟩
  · exact ⟨sid, b, a, by simpa using hst, hp, ha⟩
  · cases h0

/-- **One shot**: right after a callback that set a session, no callback — the same one replayed, or any other — sets a
session until `/start` runs again. -/
theorem C06_callback_one_shot (lower : Bytes → Bytes) (P : Policy) (pre : List PEv) (now now' : Int) (i j : CbIn)
    (hl : isLogin (callbackWith lower P (pJarOf lower P pre) now i) = true) :
    isLogin (callbackWith lower P (pJarOf lower P (pre ++ [.callback now i])) now' j) = false := by
  have hjar : pJarOf lower P (pre ++ [.callback now i]) = .absent := by
    simp only [pJarOf, List.foldl_append, List.foldl_cons, List.foldl_nil, pJarStep]
    have : isLogin (callbackWith lower P (List.foldl (pJarStep lower P) Sealed.absent pre) now i) = true := hl
    simp [this]
  rw [hjar]
  cases hres : callbackWith lower P .absent now' j with
  | errorPage n => rfl
  | login s loc =>
    obtain ⟨_, _, r, _, _, sid, _, hcs, _⟩ := C06_callback_sets_session_only_if lower P now' _ s loc hres
    simp at hcs

-- non-vacuity: a start followed by the matching callback sets the session and uses the cookie up; the same callback again does not
def exCbH : CbIn := { exCb with csrf := .absent }
example : isLogin (callbackWith id exPol (pJarOf id exPol [.start "sid" "/deep?x=1"]) 10 exCbH) = true := by decide
example : isLogin (callbackWith id exPol (pJarOf id exPol [.start "sid" "/deep?x=1", .callback 10 exCbH]) 11 exCbH) = false := by decide
example : isLogin (callbackWith id exPol (pJarOf id exPol [.start "sid" "/deep?x=1", .start "sid2" "/other"]) 10 exCbH) = false := by decide

/-- with no `/start` in the history no callback sets a session -/
theorem C06_no_start_no_session (lower : Bytes → Bytes) (P : Policy) (pre : List PEv) (now : Int) (i : CbIn)
    (hn : ∀ ev ∈ pre, match ev with | .start _ _ => False | .callback _ _ => True) :
    isLogin (callbackWith lower P (pJarOf lower P pre) now i) = false := by
  cases hres : callbackWith lower P (pJarOf lower P pre) now i with
  | errorPage n => rfl
  | login s loc =>
    obtain ⟨sid, b, a, _, hp, _⟩ := C06_callback_completes_outstanding_start lower P pre now i s loc hres
    have := hn (.start sid loc) (by rw [hp]; simp)
    exact this.elim

/-- Tie (T1): flow start and callback on the proxy. -/
theorem C06_wiring :
    Sso.Generated.skel_proxy_OAuthStart =
      ["call:getRemoteAddr", "call:isXHR", "if{", "call:New", "call:XHRError", "return", "}", "call:String", "call:GetRedirectURL", "call:GenerateKey", "call:Sprintf", "call:Marshal", "if{", "call:Error", "call:ErrorPage", "return", "}", "call:SetCSRF", "call:Marshal", "if{", "call:Error", "call:ErrorPage", "return", "}", "call:GetSignInURL", "call:String", "call:Redirect"] ∧
    Sso.Generated.skel_proxy_OAuthCallback =
      ["call:getRemoteAddr", "call:ParseForm", "if{", "call:Error", "call:ErrorPage", "return", "}", "call:Get", "if{", "call:ErrorPage", "return", "}", "call:Get", "call:redeemCode", "if{", "call:ErrorPage", "return", "}", "call:Get", "call:Unmarshal", "if{", "call:ErrorPage", "return", "}", "call:GetCSRF", "if{", "call:Error", "call:ErrorPage", "return", "}", "call:Unmarshal", "if{", "call:ErrorPage", "return", "}", "if{", "call:ErrorPage", "return", "}", "call:DeepEqual", "if{", "call:ErrorPage", "return", "}", "call:RunValidators", "call:len", "call:len", "if{", "call:len", "call:make", "range{", "call:Error", "call:append", "}", "call:Join", "call:Sprintf", "call:ErrorPage", "return", "}", "store:session.AuthorizedUpstream", "call:SaveSession", "if{", "call:ErrorPage", "return", "}", "call:ClearCSRF", "call:Redirect"] ∧
    Sso.Generated.skel_proxy_redeemCode =
      ["if{", "call:New", "return", "}", "call:GetRedirectURL", "call:String", "call:Redeem", "if{", "return", "}", "if{", "call:New", "return", "}", "return"] := ⟨rfl, rfl, rfl⟩

/-- Tie (T1): helpers, stores and second callers on this property's path (aead_Unmarshal, aead_GenerateKey, store_SetCSRF, store_GetCSRF, store_ClearCSRF, sso_Redeem). -/
theorem C06_wiring2 :
    Sso.Generated.skel_aead_Unmarshal =
      ["call:DecodeString", "if{", "return", "}", "call:EncodeToString", "if{", "call:Errorf", "return", "}", "call:Decrypt", "if{", "return", "}", "call:NewBuffer", "call:NewReader", "if{", "return", "}", "call:Copy", "call:Bytes", "call:Unmarshal", "if{", "return", "}", "return"] ∧
    Sso.Generated.skel_aead_GenerateKey =
      ["call:GenerateKey", "return"] ∧
    Sso.Generated.skel_store_SetCSRF =
      ["call:Now", "call:makeCSRFCookie", "call:SetCookie"] ∧
    Sso.Generated.skel_store_GetCSRF =
      ["call:Cookie", "return"] ∧
    Sso.Generated.skel_store_ClearCSRF =
      ["call:Now", "call:makeCSRFCookie", "call:SetCookie"] ∧
    Sso.Generated.skel_sso_Redeem =
      ["if{", "call:New", "return", "}", "call:Add", "call:Add", "call:Add", "call:Add", "call:Add", "call:String", "call:Encode", "call:NewBufferString", "call:newRequest", "if{", "return", "}", "call:Set", "call:Do", "if{", "return", "}", "call:ReadAll", "call:Close", "if{", "return", "}", "if{", "call:isProviderUnavailable", "if{", "return", "}", "call:String", "call:Errorf", "return", "}", "call:Unmarshal", "if{", "return", "}", "call:Split", "call:ToLower", "call:Duration", "call:ExtendDeadline", "call:ExtendDeadline", "call:ExtendDeadline", "return"] := ⟨rfl, rfl, rfl, rfl, rfl, rfl⟩

end Sso.Proxy
