import Generated.Facts
import SsoSpec.C01
import SsoSpec.Lemmas.List

/-!
# C04 — sessions end: hard lifetime bound, periodic revalidation, effective revocation
-/
namespace Sso.Proxy
open Sso.Validators

def saves : List CookieWrite → List Sess
  | [] => []
  | .save s :: t => s :: saves t
  | .clear :: t => saves t

/-- Whatever `Authenticate` re-seals has the identity **and lifetime deadline** of the session that was presented:
no refresh, revalidation or grace episode moves the lifetime. -/
theorem C04_checks_keep_lifetime (lower : Bytes → Bytes) (P : Policy) (now : Int) (host : String) (s : Sess) (a : Ans) :
    ∀ s' ∈ saves (authenticate lower P now host (.opens s) a).writes, sameIdentity s s' := by
  rcases authenticate_opens lower P now host s a rfl with ⟨_, _, hw⟩ | ⟨s₁, _, _, _, hd, _, hw⟩ <;> rw [hw]
  · simp [saves]
  · -- the writes are `[.save s₁]` or nothing, followed by `[.clear]` or nothing
    intro s' hs'
    have : s' = s₁ := by split at hs' <;> split at hs' <;> simp_all [saves]
    exact this ▸ (afterDue_some hd).2

theorem saves_absent_junk (lower : Bytes → Bytes) (P : Policy) (now : Int) (host : String) (a : Ans) :
    saves (authenticate lower P now host .absent a).writes = [] ∧ saves (authenticate lower P now host .junk a).writes = [] := by
  rw [authenticate_absent, authenticate_junk]; exact ⟨rfl, rfl⟩

/-- One browser's history: the login session and everything re-sealed since (newest first). The client may present
*any* of them at any time (replays of older cookies included), or nothing, or garbage. -/
structure World where
  root : Sess
  issued : List Sess

inductive Presented where
  | nth (i : Nat)       -- the i-th most recent sealed session (0 = newest), the root if `i` is out of range
  | none
  | garbage

def World.cookie (w : World) : Presented → CookieIn
  | .nth i => .opens ((w.issued ++ [w.root])[i]?.getD w.root)
  | .none => .absent
  | .garbage => .junk

structure Step where
  now : Int
  req : ReqIn
  presented : Presented
  ans : Ans

def stepW (lower : Bytes → Bytes) (P : Policy) (w : World) (st : Step) : World × HandlerOut :=
  let o := proxy lower P st.now st.req (w.cookie st.presented) st.ans
  ({ w with issued := saves o.writes ++ w.issued }, o)

def runW (lower : Bytes → Bytes) (P : Policy) (w : World) : List Step → World × List HandlerOut
  | [] => (w, [])
  | st :: t =>
    let (w', o) := stepW lower P w st
    let (w'', os) := runW lower P w' t
    (w'', o :: os)

def WInv (w : World) : Prop := ∀ s ∈ w.issued, sameIdentity w.root s

theorem cookie_identity {w : World} (hw : WInv w) {p : Presented} {s : Sess} (h : w.cookie p = .opens s) :
    sameIdentity w.root s := by
  cases p <;> simp only [World.cookie, reduceCtorEq, CookieIn.opens.injEq] at h
  rcases List.getD_append_singleton w.issued w.root ‹_› with h' | h' <;> rw [h] at h'
  · exact hw s h'
  · exact h' ▸ sameIdentity_refl _

theorem stepW_sound (lower : Bytes → Bytes) (P : Policy) (w : World) (st : Step) (hw : WInv w) :
    WInv (stepW lower P w st).1 ∧
    ∀ id, (stepW lower P w st).2.outcome = .forward (some id) →
      st.req.host = w.root.host ∧ P.slug = w.root.slug ∧ st.now ≤ w.root.lifetime := by
  constructor
  · intro s hs
    simp only [stepW, List.mem_append, proxy_writes] at hs
    rcases hs with hs | hs
    · split at hs
      · cases hs
      cases hc : w.cookie st.presented with rw [hc] at hs
      | opens s₀ =>
        exact sameIdentity_trans (cookie_identity hw hc) (C04_checks_keep_lifetime lower P st.now st.req.host s₀ st.ans s hs)
      | absent => simp [(saves_absent_junk lower P st.now st.req.host st.ans).1] at hs
      | junk => simp [(saves_absent_junk lower P st.now st.req.host st.ans).2] at hs
    · exact hw s hs
  · intro id hf
    obtain ⟨s, hc, h1, h2, h3, _⟩ := forward_authenticated hf
    obtain ⟨i1, i2, _, _, i5, _⟩ := cookie_identity hw hc
    simp only [exp, decide_eq_false_iff_not, Int.not_lt] at h3
    exact ⟨h2 ▸ i2.symm, h1 ▸ i1.symm, i5 ▸ h3⟩

theorem runW_inv (lower : Bytes → Bytes) (P : Policy) (w : World) (sts : List Step) (hw : WInv w) :
    (∀ s ∈ (runW lower P w sts).1.issued, sameIdentity w.root s) ∧
    ∀ p ∈ (sts.zip (runW lower P w sts).2), ∀ id, p.2.outcome = .forward (some id) → p.1.now ≤ w.root.lifetime := by
  induction sts generalizing w with
  | nil => exact ⟨hw, by simp [runW]⟩
  | cons st t ih =>
    have hst := stepW_sound lower P w st hw
    have ih' := ih _ hst.1
    refine ⟨ih'.1, fun p hp id hf => ?_⟩
    rcases List.mem_cons.1 hp with rfl | hp
    · exact (hst.2 id hf).2.2
    · exact ih'.2 p hp id hf

/-- **Hard lifetime bound.** Along every history of requests that starts from a login at `t₀` — any time gaps, any
authenticator answers, any refreshes, revalidations, grace episodes, replays of older cookies of the chain — every
request that reaches the upstream as an authenticated request happens no later than `t₀ + L`. -/
theorem C04_lifetime_bound (lower : Bytes → Bytes) (P : Policy) (t0 : Int) (host : String) (rd : Redeemed) (gs : List String)
    (sts : List Step) :
    ∀ p ∈ sts.zip (runW lower P ⟨mintSession P t0 host rd gs, []⟩ sts).2, ∀ id,
      p.2.outcome = .forward (some id) → p.1.now ≤ t0 + P.L := by
  have := (runW_inv lower P ⟨mintSession P t0 host rd gs, []⟩ sts (by intro s hs; cases hs)).2
  simpa [mintSession] using this

/-- … and no step of any history ever seals a session with a later lifetime deadline (nor another host, user or provider). -/
theorem C04_lifetime_never_moves (lower : Bytes → Bytes) (P : Policy) (w : World) (sts : List Step) (hw : WInv w) :
    ∀ s ∈ (runW lower P w sts).1.issued, s.lifetime = w.root.lifetime ∧ s.host = w.root.host ∧ s.email = w.root.email := by
  intro s hs
  obtain ⟨_, h2, h3, _, h5, _⟩ := (runW_inv lower P w sts hw).1 s hs
  exact ⟨h5.symm, h2.symm, h3.symm⟩

/-- **Due means checked.** A request served from a session whose refresh (or validity) deadline has passed was
served only after the authenticator confirmed it — `/refresh` 201 (resp. `/validate` 200) and the group question answered
positively — or under the outage grace of C05. -/
theorem C04_due_means_checked (lower : Bytes → Bytes) (P : Policy) (now : Int) (r : ReqIn) (s : Sess) (a : Ans) (id : Identity)
    (h : (proxy lower P now r (.opens s) a).outcome = .forward (some id)) :
    (exp s.refresh now = true → (refreshWhy P now s a).isSome = true) ∧
    (exp s.refresh now = false → exp s.valid now = true → (validateWhy P now s a).isSome = true) := by
  obtain ⟨_, hc, _, _, _, hd⟩ := forward_authenticated h
  cases hc; exact hd

/-- **Effective revocation.** If a check is due and the authenticator denies — token invalid/revoked, user left the
groups, transport error, malformed body; anything that is not a confirmation or an unavailable-within-grace — the
request is refused, the upstream is not reached and the cookie is cleared. -/
theorem C04_denied_refuses (lower : Bytes → Bytes) (P : Policy) (now : Int) (r : ReqIn) (s : Sess) (a : Ans)
    (hw : whitelisted P r = false)
    (hdue : (exp s.refresh now = true ∧ refreshWhy P now s a = none) ∨
            (exp s.refresh now = false ∧ exp s.valid now = true ∧ validateWhy P now s a = none)) :
    (∀ id, (proxy lower P now r (.opens s) a).outcome ≠ .forward id) ∧
    (proxy lower P now r (.opens s) a).writes.getLast? = some .clear := by
  refine proxy_refuses hw (.inr (.inr (.inr ?_)))
  -- the check that is due is the one that fails
  rcases hdue with ⟨h1, h2⟩ | ⟨h1, h2, h3⟩ <;> simp [afterDue, *]

/-- Validity provenance: a re-sealed session's validity deadline is `now + V` (stamped by the check that just
succeeded) or unchanged; its refresh deadline is the new token's expiry, `now + V` (grace), or unchanged. -/
theorem C04_valid_provenance (P : Policy) (now : Int) (s : Sess) (a : Ans) :
    ((validateSession P now s a).2.1 = true → (validateSession P now s a).1.valid = now + P.V) ∧
    (refreshSession P now s a).1.valid = s.valid := by
  refine ⟨fun h => ?_, (refreshSession_frame P now s a).2⟩
  have hs := validateSession_spec P now s a
  rcases hw : validateWhy P now s a with _ | _ | _ <;> simp only [hw] at hs
  · simp [hs.1] at h
  · obtain ⟨_, g, hs⟩ := hs; simp [hs]
  · simp [hs.2]

/-! ### Non-vacuity: a history with a replayed old cookie -/
def exHist : List Step :=
  [⟨50, exReq, .nth 0, exAns⟩, ⟨150, exReq, .nth 0, exAns⟩, ⟨900, exReq, .nth 1, exAns⟩, ⟨1001, exReq, .nth 0, exAns⟩]
example : (runW id exPol ⟨exSess, []⟩ exHist).2.map (·.outcome) =
    [.forward (some ⟨"a", [97, 64, 120], [], none⟩), .forward (some ⟨"a", [97, 64, 120], [], none⟩),
     .errorPage 500, .startOAuth] := by decide

/-- Tie (T1): the proxy coalesces concurrent revalidations **by access token** and refreshes **by refresh token**
(key expressions regenerated from `SingleFlightProvider`), so — by C16's key injectivity — a due check is merged only into
a provider call made with the session's *own* token: a revoked token is never vouched for by another session of the user. -/
theorem C04_checks_keyed_by_token :
    Sso.Generated.sf_keys_proxy.lookup "ValidateSessionState" = some "s.AccessToken" ∧
    Sso.Generated.sf_keys_proxy.lookup "RefreshSession" = some "s.RefreshToken" := by decide

/-- Tie (T1): the provider client's three checks. -/
theorem C04_wiring :
    Sso.Generated.skel_sso_RefreshSession =
      ["if{", "return", "}", "call:redeemRefreshToken", "if{", "call:IsWithinGracePeriod", "if{", "call:ExtendDeadline", "store:s.RefreshDeadline", "return", "}", "return", "}", "call:ValidateGroup", "if{", "call:IsWithinGracePeriod", "if{", "call:ExtendDeadline", "store:s.RefreshDeadline", "return", "}", "return", "}", "if{", "call:New", "return", "}", "store:s.Groups", "store:s.AccessToken", "call:ExtendDeadline", "store:s.RefreshDeadline", "store:s.GracePeriodStart", "return"] ∧
    Sso.Generated.skel_sso_ValidateSessionState =
      ["call:Add", "call:String", "call:Encode", "call:Sprintf", "call:newRequest", "if{", "return", "}", "call:Set", "call:Set", "call:Do", "if{", "return", "}", "if{", "call:isProviderUnavailable", "call:IsWithinGracePeriod", "if{", "call:ExtendDeadline", "store:s.ValidDeadline", "return", "}", "return", "}", "call:ValidateGroup", "if{", "call:IsWithinGracePeriod", "if{", "call:ExtendDeadline", "store:s.ValidDeadline", "return", "}", "return", "}", "if{", "return", "}", "store:s.Groups", "call:ExtendDeadline", "store:s.ValidDeadline", "store:s.GracePeriodStart", "return"] ∧
    Sso.Generated.skel_sso_ValidateGroup =
      ["call:len", "call:len", "if{", "return", "}", "call:UserGroups", "if{", "return", "}", "range{", "range{", "if{", "call:append", "}", "}", "}", "return"] ∧
    Sso.Generated.skel_sso_redeemRefreshToken =
      ["call:Add", "call:Add", "call:Add", "call:String", "call:Encode", "call:NewBufferString", "call:newRequest", "if{", "return", "}", "call:Set", "call:Do", "if{", "return", "}", "call:ReadAll", "call:Close", "if{", "return", "}", "if{", "call:isProviderUnavailable", "if{", "}", "else{", "if{", "}", "else{", "call:String", "call:Errorf", "}", "}", "return", "}", "call:Unmarshal", "if{", "return", "}", "call:Duration", "return"] := ⟨rfl, rfl, rfl, rfl⟩

/-- Tie (T1): helpers, stores and second callers on this property's path (sessions_LifetimePeriodExpired, sessions_RefreshPeriodExpired, sessions_ValidationPeriodExpired, store_SaveSession, sso_UserGroups). -/
theorem C04_wiring2 :
    Sso.Generated.skel_sessions_LifetimePeriodExpired =
      ["call:isExpired", "return"] ∧
    Sso.Generated.skel_sessions_RefreshPeriodExpired =
      ["call:isExpired", "return"] ∧
    Sso.Generated.skel_sessions_ValidationPeriodExpired =
      ["call:isExpired", "return"] ∧
    Sso.Generated.skel_store_SaveSession =
      ["call:MarshalSession", "if{", "return", "}", "call:setSessionCookie", "return"] ∧
    Sso.Generated.skel_sso_UserGroups =
      ["call:Add", "call:Add", "call:Join", "call:Add", "call:String", "call:Encode", "call:Sprintf", "call:newRequest", "if{", "return", "}", "call:Set", "call:Set", "call:Do", "if{", "return", "}", "call:ReadAll", "call:Close", "if{", "return", "}", "if{", "call:isProviderUnavailable", "if{", "return", "}", "call:String", "call:Errorf", "return", "}", "call:Unmarshal", "if{", "return", "}", "return"] := ⟨rfl, rfl, rfl, rfl, rfl⟩

/-- Tie (T1): the decoder tags of sso-proxy's configuration structs (`internal/proxy/configuration.go`): the names under which the environment and the files reach each
setting this property depends on. -/
theorem C04_tags_proxyConfigTags : Sso.Generated.proxyConfigTags =
    ["Configuration.ServerConfig mapstructure:\"server\"", "Configuration.ProviderConfig mapstructure:\"provider\"", "Configuration.ClientConfig mapstructure:\"client\"", "Configuration.SessionConfig mapstructure:\"session\"", "Configuration.UpstreamConfigs mapstructure:\"upstream\"", "Configuration.MetricsConfig mapstructure:\"metrics\"", "Configuration.LoggingConfig mapstructure:\"logging\"", "Configuration.RequestSignerConfig mapstructure:\"requestsigner\"", "ProviderConfig.ProviderType mapstructure:\"type\"", "ProviderConfig.Scope mapstructure:\"scope\"", "ProviderConfig.ProviderURLConfig mapstructure:\"url\"", "ProviderURLConfig.External mapstructure:\"external\"", "ProviderURLConfig.Internal mapstructure:\"internal\"", "SessionConfig.CookieConfig mapstructure:\"cookie\"", "SessionConfig.TTLConfig mapstructure:\"ttl\"", "CookieConfig.Name mapstructure:\"name\"", "CookieConfig.Secret mapstructure:\"secret\"", "CookieConfig.Expire mapstructure:\"expire\"", "CookieConfig.Domain mapstructure:\"domain\"", "CookieConfig.Secure mapstructure:\"secure\"", "CookieConfig.HTTPOnly mapstructure:\"httponly\"", "TTLConfig.Lifetime mapstructure:\"lifetime\"", "TTLConfig.Valid mapstructure:\"valid\"", "TTLConfig.GracePeriod mapstructre:\"grace_period\"", "ClientConfig.ID mapstructure:\"id\"", "ClientConfig.Secret mapstructure:\"secret\"", "ServerConfig.Port mapstructure:\"port\"", "ServerConfig.TimeoutConfig mapstructure:\"timeout\"", "TimeoutConfig.Write mapstructure:\"write\"", "TimeoutConfig.Read mapstructure:\"read\"", "TimeoutConfig.Shutdown mapstructure:\"shutdown\"", "MetricsConfig.StatsdConfig mapstructure:\"statsd\"", "StatsdConfig.Port mapstructure:\"port\"", "StatsdConfig.Host mapstructure:\"host\"", "LoggingConfig.Enable mapstructure:\"enable\"", "UpstreamConfigs.DefaultConfig mapstructure:\"default\"", "UpstreamConfigs.ConfigsFile mapstructure:\"configfile\"", "UpstreamConfigs.testTemplateVars ", "UpstreamConfigs.upstreamConfigs ", "UpstreamConfigs.Cluster mapstructure:\"cluster\"", "UpstreamConfigs.Scheme mapstructure:\"scheme\"", "DefaultConfig.EmailConfig mapstructure:\"email\"", "DefaultConfig.AllowedGroups mapstructure:\"groups\"", "DefaultConfig.ProviderSlug mapstructure:\"provider\"", "DefaultConfig.Timeout mapstructure:\"timeout\"", "DefaultConfig.ResetDeadline mapstructure:\"resetdeadline\"", "EmailConfig.AllowedDomains mapstructure:\"domains\"", "EmailConfig.AllowedAddresses mapstructure:\"addresses\"", "RequestSignerConfig.Key mapstructure:\"key\""] := rfl

/-- Tie (T1): the constructors and option functions that hand configured values to the components this property
speaks about (proxy_SetProvider, proxy_newProvider). -/
theorem C04_wiring3 :
    Sso.Generated.skel_proxy_SetProvider =
      ["func{", "store:op.provider", "return", "}", "return"] ∧
    Sso.Generated.skel_proxy_newProvider =
      ["call:Parse", "if{", "return", "}", "if{", "call:Parse", "if{", "return", "}", "}", "call:New", "call:NewSingleFlightProvider", "return"] := ⟨rfl, rfl⟩

end Sso.Proxy
