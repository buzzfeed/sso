import SsoSpec.C05

/-!
# C04 — histories: the validity deadline is the last passed revalidation (or the login) plus V
(needs the linear-history machinery of C05, hence its own file)
-/
namespace Sso.Proxy
open Sso.Validators

/-- a *revalidation* (not a refresh) was due at this request and passed — confirmed by the authenticator or let through
under the outage grace -/
def validationPassed (P : Policy) (now : Int) (r : ReqIn) (s : Sess) (a : Ans) : Bool :=
  !whitelisted P r && !(decide (s.slug ≠ P.slug) || decide (r.host ≠ s.host) || exp s.lifetime now) &&
  !exp s.refresh now && exp s.valid now && (validateWhy P now s a).isSome

/-- the validity deadline as the history defines it: login + V, then `now + V` at every passed revalidation, untouched by
anything else (refreshes, requests that need no check, skip-auth requests) -/
def validityAfter (vd : Int) (P : Policy) (now : Int) (r : ReqIn) (s : Sess) (a : Ans) : Int :=
  if validationPassed P now r s a then now + P.V else vd

theorem step_validity {lower : Bytes → Bytes} {P : Policy} {st : LStep} {s s' : Sess}
    (h : jarAfter (.opens s) (proxy lower P st.now st.req (.opens s) st.ans).writes = .opens s') :
    s'.valid = validityAfter s.valid P st.now st.req s st.ans := by
  obtain ⟨_, hc, ⟨hw, rfl⟩ | ⟨hw, h1, h2, h3, hd⟩⟩ := jar_step h <;> cases hc
  · simp [validityAfter, validationPassed, hw]
  simp only [validityAfter, validationPassed, hw, h1, h2, h3]
  rcases afterDue_cases hd with ⟨hr, _, rfl⟩ | ⟨hr, hv, ⟨w, hwy⟩, rfl⟩ | ⟨hr, hv, rfl⟩
  · simpa [hr] using (refreshSession_frame P st.now s st.ans).2
  · simpa [hr, hv, hwy] using (C04_valid_provenance P st.now s st.ans).1
      ((validateSession_true_iff P st.now s st.ans).2 (by simp [hwy]))
  · simp [hv]

/-- a linear history, carrying the validity deadline *as the history defines it* -/
def runV (lower : Bytes → Bytes) (P : Policy) : CookieIn → Int → List LStep → List (CookieIn × Int × LStep)
  | _, _, [] => []
  | c, vd, st :: t =>
    let vd' := match c with | .opens s => validityAfter vd P st.now st.req s st.ans | _ => vd
    (c, vd, st) :: runV lower P (jarAfter c (proxy lower P st.now st.req c st.ans).writes) vd' t

/-- **The validity deadline is the last passed revalidation (or the login) plus V, along every history.** Nothing else —
no refresh, no request that needs no check, no skip-auth request, no failed check — ever moves it. -/
theorem C04_validity_is_last_check (lower : Bytes → Bytes) (P : Policy) (c : CookieIn) (vd : Int) (sts : List LStep)
    (h0 : ∀ s, c = .opens s → s.valid = vd) :
    ∀ x ∈ runV lower P c vd sts, ∀ s, x.1 = .opens s → s.valid = x.2.1 := by
  induction sts generalizing c vd with
  | nil => intro x hx; simp [runV] at hx
  | cons st t ih =>
    intro x hx s hs
    simp only [runV, List.mem_cons] at hx
    rcases hx with rfl | hx
    · exact h0 s hs
    · refine ih _ _ (fun s' hs' => ?_) x hx s hs
      obtain ⟨s₀, rfl, _⟩ := jar_step hs'
      exact h0 s₀ rfl ▸ step_validity hs'

/-- **Served ⇒ checked recently.** Along every history that starts at a login at `t₀`, a request that reaches the upstream
at time `now` either passed a due refresh or revalidation *on this very request*, or `now` is no later than the validity
deadline the history defines: (time of the login or of the last passed revalidation) + V. -/
theorem C04_served_within_validity (lower : Bytes → Bytes) (P : Policy) (t0 : Int) (host : String) (rd : Redeemed) (gs : List String)
    (sts : List LStep) :
    ∀ x ∈ runV lower P (.opens (mintSession P t0 host rd gs)) (t0 + P.V) sts, ∀ id,
      (proxy lower P x.2.2.now x.2.2.req x.1 x.2.2.ans).outcome = .forward (some id) →
      ∃ s, x.1 = .opens s ∧
        ((exp s.refresh x.2.2.now = true ∧ (refreshWhy P x.2.2.now s x.2.2.ans).isSome = true) ∨
         (exp s.valid x.2.2.now = true ∧ (validateWhy P x.2.2.now s x.2.2.ans).isSome = true) ∨
         x.2.2.now ≤ x.2.1) := by
  intro x hx id hf
  have hinv := C04_validity_is_last_check lower P (.opens (mintSession P t0 host rd gs)) (t0 + P.V) sts
    (by intro s h; cases h; simp [mintSession]) x hx
  obtain ⟨s, hc, _, _, _, hd⟩ := forward_authenticated hf
  refine ⟨s, hc, ?_⟩
  cases hr : exp s.refresh x.2.2.now with
  | true => exact .inl ⟨rfl, hd.1 hr⟩
  | false =>
    cases hv : exp s.valid x.2.2.now with
    | true => exact .inr (.inl ⟨rfl, hd.2 hr hv⟩)
    | false =>
      have hlt : ¬ s.valid < x.2.2.now := by simpa [exp] using hv
      exact .inr (.inr (hinv s hc ▸ Int.not_lt.1 hlt))

end Sso.Proxy
