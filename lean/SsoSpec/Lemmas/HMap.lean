import SsoModel.Harden

/-!
What `hget` returns after each operation on a header multimap. Every operation is a `filter` on names, a `cons`, or a
fold of those, so two equations (`hget_filter`, `hget_cons`) carry everything; a lookup after a write is stated as one
`if written = read then … else …`, and a fold is either framed away (`hget_foldl`) or given in closed form.
-/
namespace Sso.Harden

theorem hget_cons (p : String × List String) (m : HMap) (k : String) :
    hget (p :: m) k = if p.1 = k then p.2 else hget m k := by
  unfold hget; rw [List.find?_cons]; by_cases h : p.1 = k <;> simp [h]

theorem hget_filter (q : String → Bool) (m : HMap) (k : String) :
    hget (m.filter fun p => q p.1) k = if q k then hget m k else [] := by
  induction m with
  | nil => simp [hget]
  | cons p t ih =>
    rw [List.filter_cons]
    by_cases hp : p.1 = k
    · subst hp; cases hq : q p.1 <;> simp [hget_cons, ih, hq]
    · split <;> simp [hget_cons, ih, hp]

theorem hget_hdel (m : HMap) (k' k : String) : hget (hdel m k') k = if k' = k then [] else hget m k := by
  refine (hget_filter (fun x => x ≠ k') m k).trans ?_
  by_cases h : k' = k
  · simp [h]
  · simp [h, Ne.symm h]

theorem hget_hreplace (m : HMap) (k' : String) (vs : List String) (k : String) :
    hget (hreplace m k' vs) k = if k' = k then vs else hget m k := by
  unfold hreplace; rw [hget_cons, hget_hdel]; split <;> rfl

theorem hget_hset (m : HMap) (k' v k : String) : hget (hset m k' v) k = if k' = k then [v] else hget m k :=
  hget_hreplace m k' [v] k

theorem hget_hadd (m : HMap) (k' v k : String) :
    hget (hadd m k' v) k = if k' = k then hget m k' ++ [v] else hget m k :=
  hget_hreplace m k' _ k

theorem hget_applyWrite_of_ne (m : HMap) (w : Write) (k : String) (h : w.key ≠ k) :
    hget (applyWrite m w) k = hget m k := by
  cases w with
  | set k' v => exact (hget_hset m k' v k).trans (if_neg h)
  | add k' v => exact (hget_hadd m k' v k).trans (if_neg h)
  | del k' => exact (hget_hdel m k' k).trans (if_neg h)

/-- frame rule: a fold of writes none of which changes `k` does not change `k` -/
theorem hget_foldl {β : Type} (f : HMap → β → HMap) (k : String) (l : List β)
    (h : ∀ b ∈ l, ∀ m, hget (f m b) k = hget m k) (m : HMap) : hget (l.foldl f m) k = hget m k :=
  List.foldlRecOn (motive := fun m' => hget m' k = hget m k) l f rfl fun m' hm b hb => (h b hb m').trans hm

theorem foldl_hdel (ks : List String) (m : HMap) : ks.foldl hdel m = m.filter fun p => p.1 ∉ ks := by
  induction ks generalizing m with
  | nil => exact (List.filter_eq_self.2 fun _ _ => by simp).symm
  | cons a t ih =>
    rw [List.foldl_cons, ih, hdel, List.filter_filter]
    exact List.filter_congr fun p _ => by simp [Bool.and_comm]

theorem hget_foldl_hdel (ks : List String) (m : HMap) (k : String) :
    hget (ks.foldl hdel m) k = if k ∈ ks then [] else hget m k := by
  rw [foldl_hdel]
  refine (hget_filter (fun x => x ∉ ks) m k).trans ?_
  by_cases h : k ∈ ks <;> simp [h]

theorem hget_setAll_of_not_mem {m : HMap} {kvs : List (String × String)} {k : String} (h : ∀ p ∈ kvs, p.1 ≠ k) :
    hget (setAll m kvs) k = hget m k :=
  hget_foldl _ k kvs (fun p hp m => by rw [hget_hset, if_neg (h p hp)]) m

/-- the last write wins; stated for a name all of whose entries in `kvs` carry the same value -/
theorem hget_setAll_of_mem {kvs : List (String × String)} {k v : String} (huniq : ∀ v', (k, v') ∈ kvs → v' = v)
    {m : HMap} (h : hget m k = [v] ∨ (k, v) ∈ kvs) : hget (setAll m kvs) k = [v] := by
  unfold setAll
  induction kvs generalizing m with
  | nil => simpa using h
  | cons p t ih =>
    refine ih (fun v' hv' => huniq v' (List.mem_cons_of_mem _ hv')) ?_
    rw [hget_hset]
    by_cases hp : p.1 = k
    · rw [if_pos hp, huniq p.2 (hp ▸ List.mem_cons_self)]; exact .inl rfl
    · rw [if_neg hp]
      exact h.imp_right fun hm => (List.mem_cons.1 hm).resolve_left fun e => hp (congrArg Prod.fst e).symm

theorem hget_addAll_of_not_mem {m src : HMap} {k : String} (h : ∀ p ∈ src, p.1 ≠ k) :
    hget (addAll m src) k = hget m k :=
  hget_foldl _ k src (fun p hp m =>
    hget_foldl _ k p.2 (fun v _ m => by rw [hget_hadd, if_neg (h p hp)]) m) m

theorem hget_replaceKeys_of_not_mem {m src : HMap} {k : String} (h : ∀ p ∈ src, p.1 ≠ k) :
    hget (replaceKeys m src) k = hget m k :=
  hget_foldl _ k src (fun p hp m => by rw [hget_hreplace, if_neg (h p hp)]) m

/-- What the middlewares have put under `k` when the inner handler starts: `requireHTTPS` writes last, and only its own name. -/
theorem hget_outer (c : Cfg) (k : String) :
    hget (outer c) k =
      if c.secure = true ∧ c.hstsName = k then [c.hstsValue]
      else hget (setAll (setAll [] c.securityHeaders) c.overrides) k := by
  unfold outer
  by_cases hs : c.secure = true
  · rw [if_pos hs, hget_hset]; simp only [hs, true_and]
  · rw [if_neg hs, if_neg fun h => hs h.1]

end Sso.Harden
