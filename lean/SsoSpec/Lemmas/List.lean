/-! List facts that more than one property file needs. -/

namespace List

theorem getD_append_singleton {α : Type} (l : List α) (r : α) (i : Nat) :
    (l ++ [r])[i]?.getD r ∈ l ∨ (l ++ [r])[i]?.getD r = r := by
  cases h : (l ++ [r])[i]? with
  | none => exact .inr rfl
  | some x => simpa [or_comm] using List.mem_of_getElem? h

theorem getElem?_zip_range {α : Type} (l : List α) (k : Nat) (p : Nat × α) :
    ((List.range l.length).zip l)[k]? = some p ↔ p.1 = k ∧ l[k]? = some p.2 := by
  rw [List.getElem?_zip_eq_some]
  constructor
  · rintro ⟨h1, h2⟩
    rw [List.getElem?_range (List.getElem?_eq_some_iff.1 h2).1] at h1
    exact ⟨(Option.some.inj h1).symm, h2⟩
  · rintro ⟨rfl, h2⟩
    exact ⟨List.getElem?_range (List.getElem?_eq_some_iff.1 h2).1, h2⟩

theorem mem_zip_range {α : Type} (l : List α) (p : Nat × α) : p ∈ (List.range l.length).zip l ↔ l[p.1]? = some p.2 := by
  simp only [List.mem_iff_getElem?, getElem?_zip_range]
  exact ⟨fun ⟨k, h1, h2⟩ => h1 ▸ h2, fun h => ⟨p.1, rfl, h⟩⟩

/-- what an association-list lookup finds is an entry of the list -/
theorem mem_of_find?_fst_map_snd {α β : Type} [DecidableEq α] {l : List (α × β)} {k : α} {b : β}
    (h : (l.find? (fun p => p.1 = k)).map (·.2) = some b) : (k, b) ∈ l := by
  obtain ⟨p, hp, rfl⟩ := Option.map_eq_some_iff.1 h
  have e := List.find?_some hp
  exact of_decide_eq_true e ▸ List.mem_of_find?_eq_some hp

/-- The first occurrence of a separator splits a list in one way only. -/
theorem append_sep_inj {α : Type} (sep : α) (a₁ a₂ b₁ b₂ : List α) (h₁ : sep ∉ a₁) (h₂ : sep ∉ a₂)
    (h : a₁ ++ sep :: b₁ = a₂ ++ sep :: b₂) : a₁ = a₂ ∧ b₁ = b₂ := by
  -- one of the two prefixes extends the other by some `a`; a non-empty `a` would begin with the separator
  rcases List.append_eq_append_iff.1 h with ⟨a, rfl, h'⟩ | ⟨a, rfl, h'⟩ <;> cases a <;> simp_all

end List
