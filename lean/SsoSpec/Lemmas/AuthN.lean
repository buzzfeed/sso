import SsoModel.AuthN

/-! What `firstFail`/`gateFail`, `authenticate` and `signIn` return, read off their branches. -/
namespace Sso.AuthN
open Sso.Validators

theorem firstFail_eq_none {c : Cfg} {now : Int} {r : Req} {gs : List Gate} :
    firstFail c now r gs = none ↔ ∀ g ∈ gs, gateFail c now r g = none := by
  induction gs with
  | nil => simp [firstFail]
  | cons g t ih => rw [firstFail, List.forall_mem_cons, ← ih]; cases gateFail c now r g <;> simp

theorem of_gateFail_eq_none (c : Cfg) (now : Int) (r : Req) (g : Gate) :
    gateFail c now r g = none → match g with
      | .methods ms => r.method ∈ ms
      | .clientID => r.formOK = true ∧ r.clientID = c.proxyID
      | .clientSecret => r.formOK = true ∧ r.clientSecret = c.proxySecret
      | .redirectURI => r.formOK = true ∧ validRedirect c.roots r.redirect r.redirectParsed = true
      | .signature => r.formOK = true ∧ validSignature c.proxySecret now r.sig = true := by
  fun_cases gateFail c now r g <;> intro h <;> cases h <;> simp_all

/-! The session `authenticate` re-saves is the one the provider has just stood behind: the presented one if a validation was
due and succeeded, the presented one with the new token if a refresh was due and succeeded. Everything else clears. What it
hands on (`.ok`) is what it saved, provided the e-mail rule passes. -/

theorem authenticate_ok_saves {lower : Bytes → Bytes} {emailOK : Bytes → Bool} {now : Int} {c : CookieIn} {a : IdPAns} :
    ∀ s', (authenticate lower emailOK now c a).1 = .ok s' →
      (authenticate lower emailOK now c a).2.1 = [.save s'] ∧ emailOK s'.email = true := by
  fun_cases authenticate lower emailOK now c a <;> intro s' h <;> cases h <;> exact ⟨rfl, ‹_›⟩

theorem authenticate_saves_only_if {lower : Bytes → Bytes} {emailOK : Bytes → Bool} {now : Int} {c : CookieIn} {a : IdPAns} :
    ∀ s', .save s' ∈ (authenticate lower emailOK now c a).2.1 →
      ∃ s, c = .opens s ∧ aexp s.lifetime now = false ∧
        s'.email = s.email ∧ s'.lifetime = s.lifetime ∧ s'.refreshTok = s.refreshTok ∧
        ((aexp s.refresh now = true ∧ s.refreshTok ≠ "" ∧
            ∃ tok ttl, a.refresh = .ok (tok, ttl) ∧ s' = { s with access := tok, refresh := now + ttl })
         ∨ (aexp s.refresh now = false ∧ s.access ≠ "" ∧ a.validate = true ∧ s' = s)) := by
  -- `s'` is bound after the split so that it can be replaced by the branch's own (let-bound) session
  fun_cases authenticate lower emailOK now c a <;> intro s' h <;> cases List.mem_singleton.1 h <;>
    refine ⟨_, rfl, eq_false_of_ne_true ‹_›, rfl, rfl, rfl, ?_⟩
  -- four branches save: the refresh went through, or the validation did, each with the e-mail rule passing or not
  · exact .inl ⟨‹_›, ‹_›, _, _, ‹_›, rfl⟩
  · exact .inl ⟨‹_›, ‹_›, _, _, ‹_›, rfl⟩
  · exact .inr ⟨eq_false_of_ne_true ‹_›, ‹_›, ‹_›, rfl⟩
  · exact .inr ⟨eq_false_of_ne_true ‹_›, ‹_›, ‹_›, rfl⟩

theorem signIn_code_only_if {lower : Bytes → Bytes} {emailOK : Bytes → Bool} {now : Int} {c : CookieIn} {a : IdPAns}
    {state redirect : String} {parses : Bool} :
    ∀ s, (signIn lower emailOK now c a state redirect parses).1 = .codeRedirect s →
      (authenticate lower emailOK now c a).1 = .ok s ∧ state ≠ "" ∧ redirect ≠ "" ∧ parses = true := by
  fun_cases signIn lower emailOK now c a state redirect parses <;> intro s h <;> cases h
  simp_all

/-- `signIn` adds at most a `clear` to what `authenticate` wrote -/
theorem signIn_saves (lower : Bytes → Bytes) (emailOK : Bytes → Bool) (now : Int) (c : CookieIn) (a : IdPAns)
    (state redirect : String) (parses : Bool) (s : ASess) :
    .save s ∈ (signIn lower emailOK now c a state redirect parses).2.1 ↔ .save s ∈ (authenticate lower emailOK now c a).2.1 := by
  fun_cases signIn lower emailOK now c a state redirect parses <;> simp [*]

end Sso.AuthN
