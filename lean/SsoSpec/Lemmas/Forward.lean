import SsoModel.Forward
import SsoSpec.Lemmas.HMap

/-! What each stage of the forwarding pipeline (`scrub`, `injectIdentity`, `deleteCookie`, `stripHop`) does to the lookup of a
header, and what reaches the upstream under an identity header (`hget_pipeline_identity`). C03 and C12 rest on these. -/
namespace Sso.Forward
open Sso.Harden

theorem hget_scrub (h : HMap) (k : String) : hget (scrub h) k = if k ∈ identityHeaders then [] else hget h k :=
  hget_foldl_hdel identityHeaders h k

theorem hget_stripHop (conn : List String) (h : HMap) (k : String) :
    hget (stripHop conn h) k = if k ∈ hopHeaders then [] else if k ∈ conn then [] else hget h k := by
  unfold stripHop; rw [hget_foldl_hdel, hget_foldl_hdel]

theorem hget_deleteCookie {cookieName : String} {cookies : List (String × String)}
    {render : String × String → String} {h : HMap} (k : String) :
    hget (deleteCookie cookieName cookies render h) k =
      if "Cookie" = k then
        if cookies.filter (·.1 ≠ cookieName) = [] then []
        else [";".intercalate ((cookies.filter (·.1 ≠ cookieName)).map render)]
      else hget h k := by
  unfold deleteCookie
  dsimp only
  split
  · rw [hget_hdel]
  · rw [hget_hset]

/-- what `Authenticate` leaves under the four identity names: `Set` replaces, so nothing the client or the configured
inject-headers put there survives, except under `X-Forwarded-Access-Token` when the session has no token to pass -/
theorem hget_injectIdentity (inject : List (String × String)) (id : Ident) (h : HMap) :
    hget (injectIdentity inject id h) "X-Forwarded-User" = [id.user] ∧
    hget (injectIdentity inject id h) "X-Forwarded-Email" = [id.email] ∧
    hget (injectIdentity inject id h) "X-Forwarded-Groups" = [id.groups] ∧
    hget (injectIdentity inject id h) "X-Forwarded-Access-Token" =
      match id.accessToken with
      | some t => [t]
      | none => hget (setAll h inject) "X-Forwarded-Access-Token" := by
  unfold injectIdentity; cases id.accessToken <;> simp [hget_hset]

theorem identityHeaders_mem :
    "X-Forwarded-User" ∈ identityHeaders ∧ "X-Forwarded-Email" ∈ identityHeaders ∧
    "X-Forwarded-Groups" ∈ identityHeaders ∧ "X-Forwarded-Access-Token" ∈ identityHeaders := by
  simp [identityHeaders]

/-- the rest of the chain neither writes nor (by name) strips an identity header -/
theorem identityHeaders_pass : ∀ k ∈ identityHeaders, "Cookie" ≠ k ∧ k ∉ hopHeaders := by
  simp [identityHeaders, hopHeaders]

/-- An identity header reaches the upstream as the proxy itself asserted it — or not at all, when the client's
`Connection` header nominates it or the pass is unauthenticated. -/
theorem hget_pipeline_identity {c : Cfg} {id : Option Ident} {cookies : List (String × String)}
    {render : String × String → String} {conn : List String} {h : HMap} {k : String} (hk : k ∈ identityHeaders) :
    hget (pipeline c id cookies render conn h) k =
      if k ∈ conn then [] else
        match id with
        | some i => hget (injectIdentity c.inject i (scrub h)) k
        | none => [] := by
  unfold pipeline
  rw [hget_stripHop, if_neg (identityHeaders_pass k hk).2, hget_deleteCookie, if_neg (identityHeaders_pass k hk).1]
  cases id with
  | some i => rfl
  | none => simp only [hget_scrub, if_pos hk]

end Sso.Forward
