import SsoModel.Singleflight

/-! Lookups after `upd`/`updK`, and the inductive invariant of the singleflight LTS: four facts about the call table and the ghost
logs, and `ThrInv`, what a thread in each state promises about them. Each event rewrites `thr` at its actor only (`thr_ok_upd`). -/
namespace Sso.Singleflight

def joins (l : List (Nat × Nat)) (c : Nat) : Nat := (l.filter (fun p => p.2 = c)).length

@[simp] theorem joins_nil (c : Nat) : joins [] c = 0 := rfl
theorem joins_cons (t c' : Nat) (l : List (Nat × Nat)) (c : Nat) :
    joins ((t, c') :: l) c = joins l c + (if c' = c then 1 else 0) := by
  unfold joins; by_cases h : c' = c <;> simp [h]

theorem joins_eq_zero {l : List (Nat × Nat)} {c : Nat} (h : ∀ t, (t, c) ∉ l) : joins l c = 0 :=
  List.length_eq_zero_iff.2 (List.filter_eq_nil_iff.2 fun p hp => by simp; rintro rfl; exact h p.1 hp)

section
variable {α : Type} {f : Nat → α} {g : Key → α} {i j : Nat} {k k' : Key} {a : α}

@[simp] theorem upd_self : upd f i a i = a := if_pos rfl
theorem upd_of_ne (h : j ≠ i) : upd f i a j = f j := if_neg h
theorem upd_of_lt (h : j < i) : upd f i a j = f j := upd_of_ne (Nat.ne_of_lt h)
@[simp] theorem updK_self : updK g k a k = a := if_pos rfl
theorem updK_of_ne (h : k' ≠ k) : updK g k a k' = g k' := if_neg h

theorem of_updK_none {g : Key → Option α} (h : updK g k none k' = some a) : k' ≠ k ∧ g k' = some a := by
  by_cases hk : k' = k
  · rw [hk, updK_self] at h; cases h
  · exact ⟨hk, (updK_of_ne hk).symm.trans h⟩

end

/-- A lookup after an update sees no change through a projection `g` that the update preserves
(`{ r with dups := _ }` read through `key`, `leader` or `val`, and so on). -/
theorem upd_proj {α β : Type} (g : α → β) (f : Nat → α) (i : Nat) (a : α) (h : g a = g (f i)) (j : Nat) :
    g (upd f i a j) = g (f j) := by
  unfold upd; split
  · next hj => rw [h, hj]
  · rfl

theorem recs_upd_key (s : S) (c c' : Nat) (r : CallRec) (h : r.key = (s.recs c).key) :
    (upd s.recs c r c').key = (s.recs c').key := upd_proj CallRec.key s.recs c r h c'

theorem canArrive_cases {x : TState} (h : canArrive x = true) :
    x = .idle ∨ ∃ c l v n, x = .returned c l v n := by
  cases x <;> simp [canArrive] at h ⊢

/-- What thread `t` being in state `x` promises about the rest of the state (it reads neither `thr` nor `next`). -/
def ThrInv (s : S) (t : Nat) : TState → Prop
  | .idle => True
  | .running k c => s.calls k = some c ∧ (s.recs c).leader = t ∧ (s.recs c).val = none
  | .afterFn k c => s.calls k = some c ∧ (s.recs c).leader = t ∧ (s.recs c).val ≠ none
  | .waiting k c => (s.recs c).key = k ∧ (t, c) ∈ s.joinLog
  | .returned c true v n => n = joins s.joinLog c ∧ (c, t, v) ∈ s.execs ∧ ∀ k, s.calls k ≠ some c
  | .returned c false v n => n = 0 ∧ (t, c) ∈ s.joinLog ∧ ∃ l, (c, l, v) ∈ s.execs

structure Inv (s : S) : Prop where
  calls_ok : ∀ k c, s.calls k = some c → c < s.next ∧ (s.recs c).key = k
  execs_iff : ∀ c l v, (c, l, v) ∈ s.execs ↔ c < s.next ∧ (s.recs c).val = some v ∧ (s.recs c).leader = l
  dups_joins : ∀ c, c < s.next → (s.recs c).dups = joins s.joinLog c
  join_lt : ∀ p ∈ s.joinLog, p.2 < s.next
  -- stated through an equation so that `h.thr ht` applies to `ht : s.thr t = .running k c` as it stands
  thr : ∀ ⦃t x⦄, s.thr t = x → ThrInv s t x

theorem inv_init : Inv S.init := by
  refine ⟨?_, ?_, ?_, ?_, ?_⟩ <;> simp [S.init, ThrInv]

/-- Every event rewrites `thr` at its actor `t` only: the thread part of the invariant survives if the actor's
new state is justified and what the other threads were promised still holds (for them the old state of the actor,
and so `canArrive`, does not matter). -/
theorem thr_ok_upd {s s' : S} {t : Nat} {x : TState} (h : ∀ ⦃t' y⦄, s.thr t' = y → ThrInv s t' y) (hx : ThrInv s' t x)
    (hf : ∀ t' y, t' ≠ t → ThrInv s t' y → ThrInv s' t' y) ⦃t' : Nat⦄ ⦃y : TState⦄ (hy : upd s.thr t x t' = y) :
    ThrInv s' t' y := by
  subst hy
  by_cases ht : t' = t
  · rw [ht, upd_self]; exact hx
  · rw [upd_of_ne ht]; exact hf t' _ ht (h rfl)

variable {s : S} {t : Nat} {k : Key} {c : Nat} {v : Val}

theorem Inv.leads (h : Inv s) (hx : s.thr t = .running k c ∨ s.thr t = .afterFn k c) :
    s.calls k = some c ∧ (s.recs c).leader = t := by
  rcases hx with hx | hx <;> exact ⟨(h.thr hx).1, (h.thr hx).2.1⟩

theorem inv_join (h : Inv s) (hc : canArrive (s.thr t) = true) (hk : s.calls k = some c) :
    Inv (step s (.arrive t k)).1 := by
  simp only [step, hc, hk, ↓reduceIte]
  have ⟨hlt, hkey⟩ := h.calls_ok k c hk
  refine ⟨?_, ?_, ?_, ?_, thr_ok_upd h.thr ?_ ?_⟩
  · simp only [upd_proj CallRec.key]; exact h.calls_ok
  · simp only [upd_proj CallRec.val, upd_proj CallRec.leader]; exact h.execs_iff
  · intro c' hc'
    simp only [joins_cons, ← h.dups_joins c' hc']
    by_cases hcc : c' = c
    · simp [hcc]
    · simp [upd_of_ne hcc, Ne.symm hcc]
  · exact List.forall_mem_cons.2 ⟨hlt, h.join_lt⟩
  · simp only [ThrInv, upd_proj CallRec.key]; exact ⟨hkey, List.mem_cons_self⟩
  · intro t' y _ hy
    cases y with
    | idle => trivial
    | running k' c' | afterFn k' c' => simp only [ThrInv, upd_proj CallRec.val, upd_proj CallRec.leader]; exact hy
    | waiting k' c' => simp only [ThrInv, upd_proj CallRec.key]; exact ⟨hy.1, List.mem_cons_of_mem _ hy.2⟩
    | returned c' l v n =>
      cases l
      · exact ⟨hy.1, List.mem_cons_of_mem _ hy.2.1, hy.2.2⟩
      · -- the count a returned leader reported stays exact: its call is gone from the table, the joined one is in it
        refine ⟨?_, hy.2.1, hy.2.2⟩
        rw [hy.1, joins_cons, if_neg fun (e : c = c') => hy.2.2 k (e ▸ hk)]; rfl

theorem inv_create (h : Inv s) (hc : canArrive (s.thr t) = true) (hk : s.calls k = none) :
    Inv (step s (.arrive t k)).1 := by
  simp only [step, hc, hk, ↓reduceIte]
  -- the new call id is fresh: every id on record is below `next`, so `recs` looks the same from there
  refine ⟨?_, ?_, ?_, ?_, ?_⟩ <;> dsimp only
  · intro k' c' hk'
    by_cases hkk : k' = k
    · cases hkk; cases updK_self.symm.trans hk'; exact ⟨Nat.lt_succ_self _, by rw [upd_self]⟩
    · have ⟨hlt, hkey⟩ := h.calls_ok k' c' ((updK_of_ne hkk).symm.trans hk')
      exact ⟨Nat.lt_succ_of_lt hlt, by rw [upd_of_lt hlt, hkey]⟩
  · intro c' l v
    by_cases hc' : c' = s.next
    · simpa [hc'] using fun hm => Nat.lt_irrefl _ ((h.execs_iff s.next l v).1 hm).1
    · simp [upd_of_ne hc', h.execs_iff, Nat.lt_succ_iff_lt_or_eq, hc']
  · intro c' hc'
    rcases Nat.lt_succ_iff_lt_or_eq.1 hc' with hlt | rfl
    · rw [upd_of_lt hlt]; exact h.dups_joins c' hlt
    · rw [upd_self]; exact (joins_eq_zero fun t' hm => Nat.lt_irrefl _ (h.join_lt _ hm)).symm
  · exact fun p hm => Nat.lt_succ_of_lt (h.join_lt p hm)
  · refine thr_ok_upd h.thr (by simp [ThrInv]) fun t' y _ hy => ?_
    cases y with
    | idle => trivial
    | running k' c' | afterFn k' c' =>
      have hkk : k' ≠ k := fun e => Option.some_ne_none c' ((e ▸ hy.1).symm.trans hk)
      simp only [ThrInv, updK_of_ne hkk, upd_of_lt (h.calls_ok k' c' hy.1).1]; exact hy
    | waiting k' c' => simp only [ThrInv, upd_of_lt (h.join_lt _ hy.2)]; exact hy
    | returned c' l v n =>
      cases l
      · exact hy
      · refine ⟨hy.1, hy.2.1, fun k' hk' => ?_⟩
        have hlt := ((h.execs_iff c' t' v).1 hy.2.1).1
        by_cases hkk : k' = k
        · cases hkk; cases updK_self.symm.trans hk'; exact Nat.lt_irrefl _ hlt
        · exact hy.2.2 k' ((updK_of_ne hkk).symm.trans hk')

theorem inv_fnReturn (h : Inv s) : Inv (step s (.fnReturn t v)).1 := by
  simp only [step]
  split
  next k c ht =>
    have ⟨hcall, hlead, hval⟩ := h.thr ht
    refine ⟨?_, ?_, ?_, h.join_lt, thr_ok_upd h.thr (by simp [ThrInv, hcall, hlead]) ?_⟩
    · simp only [upd_proj CallRec.key]; exact h.calls_ok
    · intro c' l v'
      simp only [List.mem_cons, upd_proj CallRec.leader, h.execs_iff]
      by_cases hc : c' = c
      · subst hc; simp [hval, hlead, (h.calls_ok k c' hcall).1, eq_comm, and_comm]
      · simp [upd_of_ne hc, hc]
    · simp only [upd_proj CallRec.dups]; exact h.dups_joins
    · intro t' y ht' hy
      cases y with
      | idle => trivial
      | running k' c' | afterFn k' c' =>
        -- another leader leads another call
        have hc : c' ≠ c := fun e => ht' (by rw [← hy.2.1, e, hlead])
        simp only [ThrInv, upd_of_ne hc]; exact hy
      | waiting k' c' => simp only [ThrInv, upd_proj CallRec.key]; exact hy
      | returned c' l v' n =>
        cases l
        · exact ⟨hy.1, hy.2.1, hy.2.2.imp fun _ => List.mem_cons_of_mem _⟩
        · exact ⟨hy.1, List.mem_cons_of_mem _ hy.2.1, hy.2.2⟩
  exact h

theorem inv_remove (h : Inv s) : Inv (step s (.remove t)).1 := by
  simp only [step]
  split
  next k c ht =>
    have ⟨hcall, hlead, hval⟩ := h.thr ht
    have ⟨hlt, hkey⟩ := h.calls_ok k c hcall
    refine ⟨fun k' c' hk' => h.calls_ok k' c' (of_updK_none hk').2, h.execs_iff, h.dups_joins, h.join_lt,
      thr_ok_upd h.thr ⟨h.dups_joins c hlt, ?_, fun k' hk' => ?_⟩ ?_⟩
    · obtain ⟨v, hv⟩ := Option.ne_none_iff_exists'.1 hval
      rw [hv]; exact (h.execs_iff c t v).2 ⟨hlt, hv, hlead⟩
    · -- only `k` could hold call `c`, and `k` was just cleared
      have ⟨hkk, hk'⟩ := of_updK_none hk'
      exact hkk ((h.calls_ok k' c hk').2.symm.trans hkey)
    · intro t' y ht' hy
      cases y with
      | idle => trivial
      | running k' c' | afterFn k' c' =>
        -- another leader leads another call, hence of another key
        have hkk : k' ≠ k := fun e => ht' (by
          cases Option.some.inj ((e ▸ hy.1 : s.calls k = some c').symm.trans hcall)
          exact hy.2.1.symm.trans hlead)
        simp only [ThrInv, updK_of_ne hkk]; exact hy
      | waiting k' c' => exact hy
      | returned c' l v' n =>
        cases l
        · exact hy
        · exact ⟨hy.1, hy.2.1, fun k' hk' => hy.2.2 k' (of_updK_none hk').2⟩
  exact h

theorem inv_wake (h : Inv s) : Inv (step s (.wake t)).1 := by
  simp only [step]
  split
  next k c ht =>
    split
    next v hv =>
      have hj := (h.thr ht).2
      exact ⟨h.calls_ok, h.execs_iff, h.dups_joins, h.join_lt, thr_ok_upd h.thr
        ⟨rfl, hj, _, (h.execs_iff c _ v).2 ⟨h.join_lt _ hj, hv, rfl⟩⟩ fun _ _ _ hy => hy⟩
    exact h
  exact h

theorem step_inv (s : S) (e : Ev) (h : Inv s) : Inv (step s e).1 := by
  cases e with
  | arrive t k =>
    cases hc : canArrive (s.thr t) with
    | false => simp only [step, hc, Bool.false_eq_true, ↓reduceIte]; exact h
    | true => cases hk : s.calls k with
      | some c => exact inv_join h hc hk
      | none => exact inv_create h hc hk
  | fnReturn t v => exact inv_fnReturn h
  | remove t => exact inv_remove h
  | wake t => exact inv_wake h

theorem runState_inv (s : S) (es : List Ev) (h : Inv s) : Inv (runState s es) :=
  List.foldlRecOn es _ h fun s hs e _ => step_inv s e hs

theorem reachable_inv (s : S) (h : Reachable s) : Inv s := by
  obtain ⟨es, rfl⟩ := h
  exact runState_inv _ es inv_init

end Sso.Singleflight
