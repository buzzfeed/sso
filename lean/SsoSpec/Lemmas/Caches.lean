import SsoModel.Caches
import SsoSpec.Lemmas.List

/-! What the operations of the cache models do (`GC.lookup` after a purge, `applyFill`, the two providers'
membership functions as one case distinction each) and the invariants of the GroupCache model and of the FillCache
LTS (helpers for C17). -/
namespace Sso.Caches

theorem GC.mem_of_lookup {s : GC} {k : CKey} {a : Answer} (h : s.lookup k = some a) : (k, a) ∈ s.cache :=
  List.mem_of_find?_fst_map_snd h

theorem gcStep_hit {s : GC} {k : CKey} {dir : DirReply} {a : Answer} (h : (gcStep s (.ask k dir)).2 = .hit a) :
    s.lookup k = some a := by
  simp only [gcStep] at h
  split at h
  · next hl => exact hl.trans (congrArg some (GCOut.hit.inj h))
  · cases dir <;> cases h

/-- The association list is a map from which `purge k` removes `k`. -/
theorem lookup_purge (s : GC) (k k' : CKey) :
    (gcStep s (.purge k)).1.lookup k' = if k' = k then none else s.lookup k' := by
  simp only [gcStep, GC.lookup, List.find?_filter]
  split
  · next e => rw [List.find?_eq_none.2 (by simp [e])]; rfl
  · next e => congr; funext p; by_cases hp : p.1 = k' <;> simp [hp, e]

/-- Entries enter the cache only together with a log entry, and the log never shrinks. -/
theorem gcStep_cache_subset_log (s : GC) (e : GCEv) (h : s.cache ⊆ s.log) :
    (gcStep s e).1.cache ⊆ (gcStep s e).1.log := by
  have hf (k : CKey) : s.cache.filter (fun p => p.1 ≠ k) ⊆ s.log := List.Subset.trans List.filter_sublist.subset h
  cases e with
  | purge k => exact hf k
  | ask k dir =>
    simp only [gcStep]
    split
    · exact h
    · cases dir with
      | err => exact h
      | ok a => exact List.cons_subset_cons _ (hf k)

theorem gcRun_cache_subset_log (s : GC) (es : List GCEv) (h : s.cache ⊆ s.log) :
    (gcRun s es).cache ⊆ (gcRun s es).log :=
  List.foldlRecOn (motive := fun s => s.cache ⊆ s.log) es _ h fun s hs e _ => gcStep_cache_subset_log s e hs

/-- the cache content determined by the history of completed fills (newest first) -/
def latest : List (String × FillResult) → String → Option Members
  | [], _ => none
  | (g', r) :: t, g =>
    if g' = g then
      match r with
      | .ok m => some m
      | .notFound => none
      | .err => latest t g
    else latest t g

/-- what a completed fill makes of the cached entry of its group -/
def FillResult.apply (r : FillResult) (old : Option Members) : Option Members :=
  match r with
  | .ok m => some m
  | .notFound => none
  | .err => old

theorem latest_cons (g : String) (r : FillResult) (t : List (String × FillResult)) (g' : String) :
    latest ((g, r) :: t) g' = if g' = g then r.apply (latest t g') else latest t g' := by
  simp only [latest, eq_comm (a := g)]
  split
  · cases r <;> rfl
  · rfl

/-- `applyFill` touches the in-flight mark, the ghost history and the cached entry of its group, nothing else. -/
theorem applyFill_fst (s : FC) (g : String) (r : FillResult) :
    (applyFill s g r).1 = { s with inflight := updS s.inflight g false, fills := (g, r) :: s.fills,
                                   cache := fun g' => if g' = g then r.apply (s.cache g') else s.cache g' } := by
  cases r with
  | ok | notFound => rfl
  | err => simp only [applyFill, FillResult.apply, ite_self]

theorem applyFill_cache (s : FC) (g : String) (r : FillResult) (g' : String) :
    (applyFill s g r).1.cache g' = if g' = g then r.apply (s.cache g') else s.cache g' :=
  congrFun (congrArg FC.cache (applyFill_fst s g r)) g'

/-- `held` is a family of locks, and `owner a = some k` says that `a` is inside `k`: whoever is inside holds the
lock and is alone there. The fill cache has two of these: `inflight`, owned by whoever runs `fillFunc`, and
`refreshLoopGroups`, owned by the loop goroutines. -/
structure Mutex {α : Type} (owner : α → Option String) (held : String → Bool) : Prop where
  held : ∀ {a k}, owner a = some k → held k = true
  alone : ∀ {a b k}, owner a = some k → owner b = some k → a = b

section Mutex
variable {α : Type} {owner owner' : α → Option String} {held : String → Bool}

theorem Mutex.congr (h : Mutex owner held) (e : ∀ a, owner' a = owner a) : Mutex owner' held :=
  (funext e : owner' = owner) ▸ h

theorem Mutex.empty (h : ∀ a, owner a = none) : Mutex owner held :=
  ⟨(fun {a _} e => nomatch (h a).symm.trans e), fun {a _ _} e => nomatch (h a).symm.trans e⟩

variable [DecidableEq α]

/-- A free lock has no owner, so whoever takes it is alone in it (whatever `a` was in before is forgotten). -/
theorem Mutex.acquire (h : Mutex owner held) {k : String} (hk : held k = false) (a : α) :
    Mutex (fun b => if b = a then some k else owner b) (updS held k true) := by
  constructor
  · intro b j; have := @h.held b j; simp only [updS]; grind
  · intro b c j; have := @h.alone b c j; have := @h.held b j; have := @h.held c j; grind

/-- The owner was alone, so after it has left nobody needs the lock. -/
theorem Mutex.release (h : Mutex owner held) {a : α} {k : String} (ha : owner a = some k) :
    Mutex (fun b => if b = a then none else owner b) (updS held k false) := by
  constructor
  · intro b j; have := @h.held b j; have := @h.alone a b j; simp only [updS]; grind
  · intro b c j; have := @h.alone b c j; grind

theorem Mutex.drop (h : Mutex owner held) (a : α) : Mutex (fun b => if b = a then none else owner b) held := by
  constructor
  · intro b j; have := @h.held b j; grind
  · intro b c j; have := @h.alone b c j; grind

end Mutex

def Phase.fill : Phase → Option String
  | .filling g => some g
  | .none => .none

def LPhase.fill : LPhase → Option String
  | .filling g => some g
  | _ => none

/-- the group a loop goroutine is registered for while it lives -/
def LPhase.group : LPhase → Option String
  | .dead => none
  | .idle g | .filling g => some g

theorem LPhase.group_of_live {p : LPhase} {g : String} (h : p = .idle g ∨ p = .filling g) : p.group = some g := by
  rcases h with rfl | rfl <;> rfl

/-- the group whose `fillFunc` a caller of `Update` (`inl t`) or a loop goroutine (`inr l`) is running -/
def fillOf (thr : Nat → Phase) (lthr : Nat → LPhase) : Nat ⊕ Nat → Option String
  | .inl t => (thr t).fill
  | .inr l => (lthr l).fill

section
variable {thr : Nat → Phase} {lthr : Nat → LPhase}

theorem fillOf_inl {t : Nat} {g : String} (h : thr t = .filling g) : fillOf thr lthr (.inl t) = some g :=
  congrArg Phase.fill h

theorem fillOf_inr {l : Nat} {g : String} (h : lthr l = .filling g) : fillOf thr lthr (.inr l) = some g :=
  congrArg LPhase.fill h

theorem fillOf_updN_thr {t : Nat} {p : Phase} :
    ∀ a, fillOf (updN thr t p) lthr a = if a = .inl t then p.fill else fillOf thr lthr a
  | .inl _ => by simp only [fillOf, updN, Sum.inl.injEq, apply_ite Phase.fill]
  | .inr _ => by simp only [fillOf, reduceCtorEq, if_false]

theorem fillOf_updN_lthr {l : Nat} {p : LPhase} :
    ∀ a, fillOf thr (updN lthr l p) a = if a = .inr l then p.fill else fillOf thr lthr a
  | .inl _ => by simp only [fillOf, reduceCtorEq, if_false]
  | .inr _ => by simp only [fillOf, updN, Sum.inr.injEq, apply_ite LPhase.fill]

end

/-- Overwriting an entry by one with the same image leaves the image as it was. -/
theorem updN_comp_same {α β : Type} {φ : α → β} {f : Nat → α} {i : Nat} {a : α} (h : φ (f i) = φ a) (j : Nat) :
    φ (updN f i a j) = φ (f j) := by
  unfold updN; split
  · next e => rw [← h, e]
  · rfl

structure FCInv (s : FC) : Prop where
  fill : Mutex (fillOf s.thr s.lthr) s.inflight
  loop : Mutex (fun l => (s.lthr l).group) s.loops
  cache : ∀ g, s.cache g = latest s.fills g

theorem fc_inv_init : FCInv FC.init :=
  ⟨.empty fun a => by cases a <;> rfl, .empty fun _ => rfl, fun _ => rfl⟩

theorem FCInv.cache_cons {s : FC} (h : FCInv s) (g : String) (r : FillResult) (g' : String) :
    (if g' = g then r.apply (s.cache g') else s.cache g') = latest ((g, r) :: s.fills) g' := by
  rw [latest_cons, h.cache]

/-- `Update` (by a caller or by a loop goroutine) acquires and releases `inflight`; `RefreshLoop` and the exit of
its goroutine acquire and release `refreshLoopGroups`; a goroutine that is born or dies is filling nothing;
a loop goroutine keeps its group from its registration to its exit. Whatever else a step changes is not looked at
by the invariant, which shows in the fields passed on as they are. -/
theorem fc_step_inv (s : FC) (e : FCEv) (h : FCInv s) : FCInv (fcStep s e).1 := by
  cases e with
  | updBegin t g =>
    dsimp only [fcStep]
    split
    · split
      · exact h
      · next hi =>
        exact ⟨(h.fill.acquire (Bool.eq_false_iff.2 hi) (.inl t)).congr fillOf_updN_thr, h.loop, h.cache⟩
    · exact h
  | updEnd t r =>
    dsimp only [fcStep]
    split
    · next g ht =>
      rw [applyFill_fst]
      exact ⟨(h.fill.release (fillOf_inl ht)).congr fillOf_updN_thr, h.loop, h.cache_cons g r⟩
    · exact h
  | loopStart g =>
    dsimp only [fcStep]
    split
    · exact h
    · next hl =>
      exact ⟨(h.fill.drop (.inr s.nextLoop)).congr fillOf_updN_lthr,
        (h.loop.acquire (Bool.eq_false_iff.2 hl) s.nextLoop).congr fun _ => apply_ite .., h.cache⟩
  | loopUpdBegin l =>
    dsimp only [fcStep]
    split
    · next g hl =>
      split
      · exact h
      · next hi =>
        exact ⟨(h.fill.acquire (Bool.eq_false_iff.2 hi) (.inr l)).congr fillOf_updN_lthr,
          h.loop.congr (updN_comp_same (LPhase.group_of_live (.inl hl))), h.cache⟩
    · exact h
  | loopUpdEnd l r =>
    dsimp only [fcStep]
    split
    · next g hl =>
      rw [applyFill_fst]
      exact ⟨(h.fill.release (fillOf_inr hl)).congr fillOf_updN_lthr,
        h.loop.congr (updN_comp_same (LPhase.group_of_live (.inr hl))), h.cache_cons g r⟩
    · exact h
  | loopExit l =>
    dsimp only [fcStep]
    split
    · next g hl =>
      split
      · exact ⟨(h.fill.drop (.inr l)).congr fillOf_updN_lthr,
          (h.loop.release (a := l) (LPhase.group_of_live (.inl hl))).congr fun _ => apply_ite .., h.cache⟩
      · exact h
    · exact h
  | stop =>
    dsimp only [fcStep]
    split
    · exact h
    · exact ⟨h.fill, h.loop, h.cache⟩
  | get g => exact h

theorem fc_run_inv (s : FC) (es : List FCEv) (h : FCInv s) : FCInv (fcRun s es) :=
  List.foldlRecOn es _ h fun s hs e _ => fc_step_inv s e hs

theorem fc_reachable_inv (s : FC) (h : s.Reachable) : FCInv s := by
  obtain ⟨es, rfl⟩ := h
  exact fc_run_inv _ es fc_inv_init

theorem uncached_eq_nil {cache : String → Option Members} {asked : List String} :
    asked.filter (fun g => (cache g).isNone) = [] ↔ ∀ g ∈ asked, (cache g).isSome := by
  simp only [List.filter_eq_nil_iff, Option.isNone_iff_eq_none, Option.isSome_iff_ne_none, ne_eq]

theorem uncached_ne_nil {cache : String → Option Members} {asked : List String} :
    asked.filter (fun g => (cache g).isNone) ≠ [] ↔ ∃ g ∈ asked, cache g = none := by
  simp only [ne_eq, List.filter_eq_nil_iff, Option.isNone_iff_eq_none, Classical.not_forall, Decidable.not_not,
    exists_prop]

/-- The `len(allowedGroups) == 0` shortcut is the fully cached case of an empty question. -/
theorem googleMembership_eq (cache : String → Option Members) (asked : List String) (email : String)
    (dir : Option (List String)) :
    googleMembership cache asked email dir =
      if asked.filter (fun g => (cache g).isNone) = [] then (some (asked.filter (cachedMember cache email)), [])
      else (dir, asked.filter (fun g => (cache g).isNone)) := by
  cases asked with
  | nil => rfl
  | cons => exact ite_not ..

theorem cognitoMembership_eq (cache : String → Option Members) (asked : List String) (user : String)
    (dir : Option (List String)) :
    cognitoMembership cache asked user dir =
      if asked.filter (fun g => (cache g).isNone) = [] then (some (asked.filter (cachedMember cache user)), [])
      else (dir.map fun ds => asked.filter (cachedMember cache user) ++ asked.filter fun g => ds.contains g,
            asked.filter (fun g => (cache g).isNone)) := by
  cases asked with
  | nil => rfl
  | cons => cases dir <;> exact ite_not ..

end Sso.Caches
