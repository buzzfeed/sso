import SsoModel.Proxy

/-!
The provider checks (`refreshSession`, `validateSession`) and `authenticate`, characterised once: each check ends in one of
three ways, keyed by `refreshWhy` / `validateWhy`; `authenticate` on a readable cookie is its three gates, then the check that
is due (`afterDue`), then the per-request validators. `refreshWhy` and `validateWhy` are executable and are also what the
replay driver's monitors evaluate (`Driver/Proxyflow.lean`), so this module stays core-only.
-/
namespace Sso.Proxy
open Sso.Validators

/-- the identity of a session: what no provider check may touch -/
def sameIdentity (a b : Sess) : Prop :=
  a.slug = b.slug ∧ a.host = b.host ∧ a.email = b.email ∧ a.user = b.user ∧ a.lifetime = b.lifetime ∧ a.refreshTok = b.refreshTok

theorem sameIdentity_refl (a : Sess) : sameIdentity a a := ⟨rfl, rfl, rfl, rfl, rfl, rfl⟩

theorem sameIdentity_trans {a b c : Sess} (h1 : sameIdentity a b) (h2 : sameIdentity b c) : sameIdentity a c := by
  unfold sameIdentity at *; simp_all

theorem withinGrace_fst (s : Sess) (G now : Int) :
    (withinGrace s G now).1 = { s with grace := some (s.grace.getD now) } := rfl

theorem withinGrace_snd (s : Sess) (G now : Int) : (withinGrace s G now).2 = true ↔ now < s.grace.getD now + G := by
  simp [withinGrace]

theorem validateGroup_unavail (allowed : List String) (a : Ans) (h : (validateGroup allowed a).1 = .unavail) :
    ∃ n, a.profile = .status n ∧ unavailable n = true := by
  unfold validateGroup at h
  split at h
  · cases h
  · cases hp : a.profile <;> simp [hp] at h
    exact ⟨_, rfl, h⟩

/-- how a grace-served or confirmed refresh can come about -/
inductive RefreshWhy where
  | confirmed      -- /refresh answered 201 with a token and the group question was answered positively (or not needed)
  | grace          -- /refresh or /profile answered 429/503 and the grace window is open
  deriving DecidableEq, Repr

def refreshWhy (P : Policy) (now : Int) (s : Sess) (a : Ans) : Option RefreshWhy :=
  if s.refreshTok = "" then none else
  match a.refresh with
  | .status n => if unavailable n ∧ (withinGrace s P.G now).2 then some .grace else none
  | .ok _ =>
    match (validateGroup P.allowedGroups a).1 with
    | .ok _ true => some .confirmed
    | .unavail => if (withinGrace s P.G now).2 then some .grace else none
    | _ => none
  | _ => none

theorem refreshWhy_status {P : Policy} {now : Int} {s : Sess} {a : Ans} {n : Nat} (h : a.refresh = .status n) :
    refreshWhy P now s a =
      if s.refreshTok = "" then none else if unavailable n ∧ (withinGrace s P.G now).2 then some .grace else none := by
  simp only [refreshWhy, h]

/-- The three ways `RefreshSession` ends (`validateSession_spec` below is its twin). A refusal may leave the grace start stamped
on the session it hands back; the caller never saves that one. -/
theorem refreshSession_spec (P : Policy) (now : Int) (s : Sess) (a : Ans) :
    match refreshWhy P now s a with
    | some .confirmed => (refreshSession P now s a).2.1 = .ok true ∧ ∃ g tok ttl,
        (refreshSession P now s a).1 = { s with groups := g, access := tok, refresh := now + ttl, grace := none }
    | some .grace => (refreshSession P now s a).2.1 = .ok true ∧
        (refreshSession P now s a).1 = { s with grace := some (s.grace.getD now), refresh := now + P.V }
    | none => (∃ e, (refreshSession P now s a).2.1 = .error e) ∧
        ((refreshSession P now s a).1 = s ∨ (refreshSession P now s a).1 = { s with grace := some (s.grace.getD now) }) := by
  unfold refreshSession refreshWhy
  by_cases ht : s.refreshTok = ""
  · simp [ht]
  · simp only [ht, if_false]
    cases a.refresh with
    | status n =>
      by_cases hu : unavailable n = true
      · by_cases hw : (withinGrace s P.G now).2 = true <;> simp [hu, hw, withinGrace_fst]
      · simp only [hu, Bool.false_eq_true, false_and, if_false]; split <;> simp
    | transport => simp
    | malformed => simp
    | ok p =>
      rcases validateGroup P.allowedGroups a with ⟨g, c⟩
      cases g with
      | unavail => by_cases hw : (withinGrace s P.G now).2 = true <;> simp [hw, withinGrace_fst]
      | err => simp
      | ok ig v => cases v <;> simp

theorem refreshSession_ok_iff (P : Policy) (now : Int) (s : Sess) (a : Ans) :
    (refreshSession P now s a).2.1 = .ok true ↔ (refreshWhy P now s a).isSome = true := by
  have h := refreshSession_spec P now s a
  rcases hw : refreshWhy P now s a with _ | _ | _ <;> simp only [hw] at h
  · obtain ⟨⟨e, he⟩, _⟩ := h; simp [he]
  · simp [h.1]
  · simp [h.1]

theorem refreshSession_never_false (P : Policy) (now : Int) (s : Sess) (a : Ans) :
    (refreshSession P now s a).2.1 ≠ .ok false := by
  have h := refreshSession_spec P now s a
  rcases hw : refreshWhy P now s a with _ | _ | _ <;> simp only [hw] at h
  · obtain ⟨⟨e, he⟩, _⟩ := h; simp [he]
  · simp [h.1]
  · simp [h.1]

theorem refreshSession_frame (P : Policy) (now : Int) (s : Sess) (a : Ans) :
    sameIdentity s (refreshSession P now s a).1 ∧ (refreshSession P now s a).1.valid = s.valid := by
  have h := refreshSession_spec P now s a
  rcases hw : refreshWhy P now s a with _ | _ | _ <;> simp only [hw] at h
  · rcases h.2 with h | h <;> simp [h, sameIdentity]
  · obtain ⟨_, g, tok, ttl, h⟩ := h; simp [h, sameIdentity]
  · simp [h.2, sameIdentity]

inductive ValidateWhy where
  | confirmed | grace
  deriving DecidableEq, Repr

def validateWhy (P : Policy) (now : Int) (s : Sess) (a : Ans) : Option ValidateWhy :=
  let viaGroup : Option ValidateWhy :=
    match (validateGroup P.allowedGroups a).1 with
    | .ok _ true => some .confirmed
    | .unavail => if (withinGrace s P.G now).2 then some .grace else none
    | _ => none
  match a.validate with
  | .transport => none
  | .status n => if unavailable n ∧ (withinGrace s P.G now).2 then some .grace else none
  | .malformed => viaGroup
  | .ok () => viaGroup

theorem validateWhy_status {P : Policy} {now : Int} {s : Sess} {a : Ans} {n : Nat} (h : a.validate = .status n) :
    validateWhy P now s a = if unavailable n ∧ (withinGrace s P.G now).2 then some .grace else none := by
  simp only [validateWhy, h]

theorem validateWhy_transport {P : Policy} {now : Int} {s : Sess} {a : Ans} (h : a.validate = .transport) :
    validateWhy P now s a = none := by
  simp only [validateWhy, h]

theorem validateSession_spec (P : Policy) (now : Int) (s : Sess) (a : Ans) :
    match validateWhy P now s a with
    | some .confirmed => (validateSession P now s a).2.1 = true ∧ ∃ g,
        (validateSession P now s a).1 = { s with groups := g, valid := now + P.V, grace := none }
    | some .grace => (validateSession P now s a).2.1 = true ∧
        (validateSession P now s a).1 = { s with grace := some (s.grace.getD now), valid := now + P.V }
    | none => (validateSession P now s a).2.1 = false ∧
        ((validateSession P now s a).1 = s ∨ (validateSession P now s a).1 = { s with grace := some (s.grace.getD now) }) := by
  unfold validateSession validateWhy
  cases a.validate with
  | transport => simp
  | status n =>
    by_cases hu : unavailable n = true
    · by_cases hw : (withinGrace s P.G now).2 = true <;> simp [hu, hw, withinGrace_fst]
    · simp [hu]
  | _ =>
    rcases validateGroup P.allowedGroups a with ⟨g, c⟩
    cases g with
    | unavail => by_cases hw : (withinGrace s P.G now).2 = true <;> simp [hw, withinGrace_fst]
    | err => simp
    | ok ig v => cases v <;> simp

theorem validateSession_true_iff (P : Policy) (now : Int) (s : Sess) (a : Ans) :
    (validateSession P now s a).2.1 = true ↔ (validateWhy P now s a).isSome = true := by
  have h := validateSession_spec P now s a
  rcases hw : validateWhy P now s a with _ | _ | _ <;> simp only [hw] at h <;> simp [h.1]

theorem validateSession_frame (P : Policy) (now : Int) (s : Sess) (a : Ans) :
    sameIdentity s (validateSession P now s a).1 ∧ (validateSession P now s a).1.refresh = s.refresh ∧
    (validateSession P now s a).1.access = s.access := by
  have h := validateSession_spec P now s a
  rcases hw : validateWhy P now s a with _ | _ | _ <;> simp only [hw] at h
  · rcases h.2 with h | h <;> simp [h, sameIdentity]
  · obtain ⟨_, g, h⟩ := h; simp [h, sameIdentity]
  · simp [h.2, sameIdentity]

/-- The session `Authenticate` goes on with once the refresh or revalidation that is due has passed; `none` if it failed. -/
def afterDue (P : Policy) (now : Int) (s : Sess) (a : Ans) : Option Sess :=
  if exp s.refresh now then (if (refreshWhy P now s a).isSome then some (refreshSession P now s a).1 else none)
  else if exp s.valid now then (if (validateWhy P now s a).isSome then some (validateSession P now s a).1 else none)
  else some s

/-- what "passed the refresh / revalidation that was due" means -/
def dueChecksPassed (P : Policy) (now : Int) (s : Sess) (a : Ans) : Prop :=
  (exp s.refresh now = true → (refreshWhy P now s a).isSome = true) ∧
  (exp s.refresh now = false → exp s.valid now = true → (validateWhy P now s a).isSome = true)

theorem afterDue_cases {P : Policy} {now : Int} {s s' : Sess} {a : Ans} (h : afterDue P now s a = some s') :
    (exp s.refresh now = true ∧ (∃ w, refreshWhy P now s a = some w) ∧ s' = (refreshSession P now s a).1) ∨
    (exp s.refresh now = false ∧ exp s.valid now = true ∧ (∃ w, validateWhy P now s a = some w) ∧
      s' = (validateSession P now s a).1) ∨
    (exp s.refresh now = false ∧ exp s.valid now = false ∧ s' = s) := by
  unfold afterDue at h
  split at h
  · next hr =>
    split at h <;> cases h
    exact .inl ⟨hr, Option.isSome_iff_exists.1 ‹_›, rfl⟩
  next hr =>
  simp only [Bool.not_eq_true] at hr
  split at h
  · next hv =>
    split at h <;> cases h
    exact .inr (.inl ⟨hr, hv, Option.isSome_iff_exists.1 ‹_›, rfl⟩)
  · next hv =>
    cases h
    exact .inr (.inr ⟨hr, by simpa using hv, rfl⟩)

theorem afterDue_some {P : Policy} {now : Int} {s s' : Sess} {a : Ans} (h : afterDue P now s a = some s') :
    dueChecksPassed P now s a ∧ sameIdentity s s' := by
  unfold dueChecksPassed
  rcases afterDue_cases h with ⟨hr, ⟨w, hw⟩, rfl⟩ | ⟨hr, hv, ⟨w, hw⟩, rfl⟩ | ⟨hr, hv, rfl⟩
  · simp [hr, hw, (refreshSession_frame P now s a).1]
  · simp [hr, hv, hw, (validateSession_frame P now s a).1]
  · simp [hr, hv, sameIdentity_refl]

theorem authenticate_absent (lower : Bytes → Bytes) (P : Policy) (now : Int) (host : String) (a : Ans) :
    authenticate lower P now host .absent a =
      { res := .error .noCookie, writes := [.clear], calls := [], branch := "noCookie" } := rfl

theorem authenticate_junk (lower : Bytes → Bytes) (P : Policy) (now : Int) (host : String) (a : Ans) :
    authenticate lower P now host .junk a =
      { res := .error .invalidSession, writes := [.clear], calls := [], branch := "invalidSession" } := rfl

/-- `Authenticate` on a cookie that opens to `s`: the provider, host and lifetime gates; then the due check; then the
per-request validators on the session the check produced. Either it is refused at a gate or at the due check (nothing saved,
cookie cleared), or the check's session is saved iff a check was due and the validators decide — a denial again ending
with the cookie cleared. -/
theorem authenticate_opens (lower : Bytes → Bytes) (P : Policy) (now : Int) (host : String) (s : Sess) (a : Ans)
    {o : AuthOut} (ho : authenticate lower P now host (.opens s) a = o) :
    ((s.slug ≠ P.slug ∨ host ≠ s.host ∨ exp s.lifetime now = true ∨ afterDue P now s a = none) ∧
      (∃ e, o.res = .error e) ∧ o.writes = [.clear]) ∨
    (∃ s', s.slug = P.slug ∧ host = s.host ∧ exp s.lifetime now = false ∧ afterDue P now s a = some s' ∧
      o.res = (if requestValidators lower P s' then .ok (identityOf P s') else .error .notAuthorized) ∧
      o.writes = (if exp s.refresh now ∨ exp s.valid now then [.save s'] else []) ++
        (if requestValidators lower P s' then [] else [.clear])) := by
  unfold authenticate at ho
  dsimp only at ho
  unfold afterDue
  by_cases h1 : s.slug ≠ P.slug
  · rw [if_pos h1] at ho; subst ho; exact .inl ⟨.inl h1, ⟨_, rfl⟩, rfl⟩
  by_cases h2 : host ≠ s.host
  · rw [if_neg h1, if_pos h2] at ho; subst ho; exact .inl ⟨.inr (.inl h2), ⟨_, rfl⟩, rfl⟩
  by_cases h3 : exp s.lifetime now = true
  · rw [if_neg h1, if_neg h2, if_pos h3] at ho; subst ho; exact .inl ⟨.inr (.inr (.inl h3)), ⟨_, rfl⟩, rfl⟩
  rw [if_neg h1, if_neg h2, if_neg h3] at ho
  simp only [ne_eq, Decidable.not_not, Bool.not_eq_true] at h1 h2 h3
  -- the three gates are passed; of the provider call keep only its verdict (`…_ok_iff`) and the session it returns
  by_cases hr : exp s.refresh now = true
  · simp only [hr, if_true, true_or] at ho ⊢
    have hiff := refreshSession_ok_iff P now s a
    have hnf := refreshSession_never_false P now s a
    generalize refreshSession P now s a = x at hiff hnf ho
    rcases x with ⟨s1, e | _ | _, calls⟩ <;> simp only at ho
    · subst ho; exact .inl ⟨by simp [← hiff], by simp⟩
    · exact absurd rfl hnf
    · refine .inr ⟨s1, h1, h2, h3, by simp [← hiff], ?_⟩
      split at ho <;> subst ho <;> simp [*]
  simp only [hr, Bool.false_eq_true, if_false, false_or] at ho ⊢
  by_cases hv : exp s.valid now = true
  · simp only [hv, if_true] at ho ⊢
    have hiff := validateSession_true_iff P now s a
    generalize validateSession P now s a = x at hiff ho
    rcases x with ⟨s1, _ | _, calls⟩ <;> simp only at ho
    · subst ho; exact .inl ⟨by simp [← hiff], by simp⟩
    · refine .inr ⟨s1, h1, h2, h3, by simp [← hiff], ?_⟩
      split at ho <;> subst ho <;> simp [*]
  · simp only [hv, Bool.false_eq_true, if_false] at ho ⊢
    refine .inr ⟨s, h1, h2, h3, rfl, ?_⟩
    split at ho <;> subst ho <;> simp [*]

theorem authenticate_ok (lower : Bytes → Bytes) (P : Policy) (now : Int) (host : String) (c : CookieIn) (a : Ans)
    (id : Identity) (h : (authenticate lower P now host c a).res = .ok id) :
    ∃ s, c = .opens s ∧ s.slug = P.slug ∧ s.host = host ∧ exp s.lifetime now = false ∧ dueChecksPassed P now s a ∧
      ∃ s', sameIdentity s s' ∧ id = identityOf P s' ∧ requestAdmits lower P.rules s'.email = true := by
  rcases c with _ | _ | s
  · rw [authenticate_absent] at h; cases h
  · rw [authenticate_junk] at h; cases h
  rcases authenticate_opens lower P now host s a rfl with ⟨_, ⟨e, he⟩, _⟩ | ⟨s', h1, h2, h3, hd, hres, _⟩
  · rw [he] at h; cases h
  · rw [hres] at h
    split at h <;> cases h
    exact ⟨s, rfl, h1, h2.symm, h3, (afterDue_some hd).1, s', (afterDue_some hd).2, rfl, ‹_›⟩

theorem proxy_writes (lower : Bytes → Bytes) (P : Policy) (now : Int) (r : ReqIn) (c : CookieIn) (a : Ans) :
    (proxy lower P now r c a).writes = if whitelisted P r then [] else (authenticate lower P now r.host c a).writes := by
  unfold proxy
  split
  · rfl
  · simp only; split <;> rfl

theorem proxy_outcome (lower : Bytes → Bytes) (P : Policy) (now : Int) (r : ReqIn) (c : CookieIn) (a : Ans) :
    (proxy lower P now r c a).outcome =
      if whitelisted P r then .forward none
      else match (authenticate lower P now r.host c a).res with
        | .ok id => .forward (some id)
        | .error e => errOutcome r e := by
  unfold proxy
  split
  · rfl
  · simp only; cases (authenticate lower P now r.host c a).res <;> rfl

theorem errOutcome_ne_forward (r : ReqIn) (e : AuthErr) (id : Option Identity) : errOutcome r e ≠ .forward id := by
  cases e <;> simp only [errOutcome] <;> (try split) <;> exact Outcome.noConfusion

/-- The refusals of `Proxy` on a readable cookie: turned away at one of the three gates or at the check that is due, the request
does not reach the upstream and the cookie is cleared. -/
theorem proxy_refuses {lower : Bytes → Bytes} {P : Policy} {now : Int} {r : ReqIn} {s : Sess} {a : Ans}
    (hw : whitelisted P r = false)
    (h : s.slug ≠ P.slug ∨ r.host ≠ s.host ∨ exp s.lifetime now = true ∨ afterDue P now s a = none) :
    (∀ id, (proxy lower P now r (.opens s) a).outcome ≠ .forward id) ∧
    (proxy lower P now r (.opens s) a).writes.getLast? = some .clear := by
  rw [proxy_outcome, proxy_writes, hw]
  rcases authenticate_opens lower P now r.host s a rfl with ⟨_, ⟨e, he⟩, hwr⟩ | ⟨s', h1, h2, h3, hd, _⟩
  · rw [he, hwr]; exact ⟨errOutcome_ne_forward r e, rfl⟩
  · rcases h with h | h | h | h
    · exact absurd h1 h
    · exact absurd h2 h
    · rw [h3] at h; cases h
    · rw [hd] at h; cases h

end Sso.Proxy
