import SsoModel.SfWrappers
import SsoSpec.Lemmas.List

/-! Injectivity lemmas for separator-joined keys (used by C16 and C17). -/
namespace Sso.SfWrappers

theorem joinWith_cons_cons {α : Type} (comma : α) (g h : List α) (t : List (List α)) :
    joinWith comma (g :: h :: t) = g ++ comma :: joinWith comma (h :: t) := rfl

section
variable {α : Type} {comma : α} {g g' : List α} {t t' : List (List α)}

theorem joinWith_eq_nil (h : joinWith comma (g :: t) = []) : g = [] := by
  cases t with
  | nil => exact h
  | cons _ _ => simp [joinWith] at h

/-- A comma-free first piece is what stands before the first comma, or everything if there is none. -/
theorem joinWith_cons_inj (hg : comma ∉ g) (hg' : comma ∉ g')
    (h : joinWith comma (g :: t) = joinWith comma (g' :: t')) : g = g' ∧ joinWith comma t = joinWith comma t' := by
  cases t with
  | nil => cases t' with
    | nil => exact ⟨h, rfl⟩
    | cons _ _ => exact absurd (h ▸ List.mem_append_right g' List.mem_cons_self : comma ∈ joinWith comma [g]) hg
  | cons _ _ => cases t' with
    | nil => exact absurd (h ▸ List.mem_append_right g List.mem_cons_self : comma ∈ joinWith comma [g']) hg'
    | cons _ _ => exact List.append_sep_inj comma g g' _ _ hg hg' h

end

/-- `strings.Join(·, ",")` is injective on lists of non-empty, comma-free names. -/
theorem joinWith_injective {α : Type} (comma : α) (l₁ l₂ : List (List α))
    (h₁ : ∀ g ∈ l₁, g ≠ [] ∧ comma ∉ g) (h₂ : ∀ g ∈ l₂, g ≠ [] ∧ comma ∉ g)
    (h : joinWith comma l₁ = joinWith comma l₂) : l₁ = l₂ := by
  induction l₁ generalizing l₂ with
  | nil => cases l₂ with
    | nil => rfl
    | cons g t => exact absurd (joinWith_eq_nil h.symm) (h₂ g List.mem_cons_self).1
  | cons g t ih => cases l₂ with
    | nil => exact absurd (joinWith_eq_nil h) (h₁ g List.mem_cons_self).1
    | cons g' t' =>
      have ⟨hg, ht⟩ := List.forall_mem_cons.1 h₁
      have ⟨hg', ht'⟩ := List.forall_mem_cons.1 h₂
      have ⟨e, e'⟩ := joinWith_cons_inj hg.2 hg'.2 h
      rw [e, ih _ ht ht' e']

/-- Any sorting function (a sorted permutation w.r.t. an antisymmetric order) sends permutations of one
another to the same list: the key does not depend on the order in which groups were listed. -/
theorem sort_perm_invariant {α : Type} (le : α → α → Prop) (hanti : ∀ a b, le a b → le b a → a = b)
    (sort : List α → List α) (hperm : ∀ l, (sort l).Perm l) (hsorted : ∀ l, (sort l).Pairwise le)
    (l₁ l₂ : List α) (h : l₁.Perm l₂) : sort l₁ = sort l₂ :=
  ((hperm l₁).trans (h.trans (hperm l₂).symm)).eq_of_pairwise (fun a b _ _ => hanti a b) (hsorted l₁) (hsorted l₂)

end Sso.SfWrappers
