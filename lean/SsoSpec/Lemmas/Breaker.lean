import SsoModel.Breaker
import SsoSpec.Lemmas.List

/-! The breaker's operations as equations (`setState`, `cs`, `beforeRequest`, the seven rows of `afterCore`), the relation `Moves`
(generation and announced state changes move together) and the invariant `Inv` of the transition system, kept by any `Moves`. -/
namespace Sso.Breaker

def nChanges : List Hook → Nat
  | [] => 0
  | .stateChange _ _ :: t => nChanges t + 1
  | .backoff _ _ :: t => nChanges t

@[simp] theorem nChanges_nil : nChanges [] = 0 := rfl
@[simp] theorem nChanges_append (a b : List Hook) : nChanges (a ++ b) = nChanges a + nChanges b := by
  induction a with
  | nil => simp
  | cons h t ih => cases h <;> simp [nChanges, ih] <;> omega

def hooksOf : Out → List Hook
  | .admitted _ h => h
  | .rejected _ h => h
  | .completed h => h
  | .ticked => []
  | .disabled => []

def hooksProper : List Hook → Prop
  | [] => True
  | .stateChange p t :: r => p ≠ t ∧ hooksProper r
  | .backoff _ _ :: r => hooksProper r

theorem hooksProper_append {a b : List Hook} (ha : hooksProper a) (hb : hooksProper b) :
    hooksProper (a ++ b) := by
  induction a with
  | nil => simpa
  | cons h t ih =>
    cases h with
    | stateChange p q => exact ⟨ha.1, ih ha.2⟩
    | backoff d r => exact ih ha

def decr (b : B) : B := { b with cnt := { b.cnt with cur := b.cnt.cur - 1 } }

theorem setState_of_eq {b : B} {s : St} (h : b.st = s) : setState b s = (b, []) := if_pos h

theorem setState_of_ne {b : B} {s : St} (h : b.st ≠ s) :
    setState b s = ({ b with st := s, gen := b.gen + 1 }, [.stateChange b.st s]) := if_neg h

theorem cs_of_expired {b : B} (ho : b.st = .opn) (hd : b.now > b.expires) :
    cs b = ({ b with st := .halfOpen, gen := b.gen + 1 }, [.stateChange .opn .halfOpen]) := by
  rw [cs, if_pos ⟨ho, hd⟩, setState_of_ne (by simp [ho]), ho]

theorem cs_of_not_expired {b : B} (h : ¬(b.st = .opn ∧ b.now > b.expires)) : cs b = (b, []) := if_neg h

/-- `beforeRequest` turns the call away: open, or half-open with `halfOpenMax` calls already in flight. -/
def Refuses (P : Params) (b : B) : Prop := b.st = .opn ∨ b.st = .halfOpen ∧ b.cnt.cur ≥ P.halfOpenMax

theorem beforeRequest_reject {P : Params} {b : B} (h : Refuses P (cs b).1) :
    beforeRequest P b = ((cs b).1, .rejected (cs b).1.gen, (cs b).2) := by
  rcases h with h | h <;> simp [beforeRequest, h]

theorem beforeRequest_admit {P : Params} {b : B} (h : ¬Refuses P (cs b).1) :
    beforeRequest P b =
      ({ (cs b).1 with cnt := { (cs b).1.cnt with cur := (cs b).1.cnt.cur + 1 } }, .admitted (cs b).1.gen, (cs b).2) := by
  simp only [Refuses, not_or] at h
  simp only [beforeRequest, h, if_false]

theorem afterRequest_eq (P : Params) (b : B) (ok : Bool) (n : Int) :
    afterRequest P b ok n =
      ((afterCore P (cs (decr b)).1 ok n).1, (cs (decr b)).2 ++ (afterCore P (cs (decr b)).1 ok n).2) := rfl

section afterCore
variable {P : Params} {b : B}

theorem afterCore_stale {ok : Bool} {g : Int} (h : g ≠ b.gen) : afterCore P b ok g = (b, []) :=
  if_pos h

theorem afterCore_success_reset (hs : b.st = .halfOpen) (hr : P.reset ⟨b.cnt.cur, b.cnt.succ + 1, 0⟩ = true) :
    afterCore P b true b.gen =
      ({ b with st := .closed, gen := b.gen + 1, cnt := ⟨b.cnt.cur, 0, 0⟩ }, [.stateChange .halfOpen .closed]) := by
  simp [afterCore, onSuccess, setState, clearCounts, hs, hr]

theorem afterCore_success_count (h : ¬(b.st = .halfOpen ∧ P.reset ⟨b.cnt.cur, b.cnt.succ + 1, 0⟩ = true)) :
    afterCore P b true b.gen = ({ b with cnt := ⟨b.cnt.cur, b.cnt.succ + 1, 0⟩ }, []) := by
  simp [afterCore, onSuccess, h]

theorem afterCore_failure_trip (hs : b.st = .closed) (ht : P.trip ⟨b.cnt.cur, 0, b.cnt.fail + 1⟩ = true) :
    afterCore P b false b.gen =
      let c : Counts := ⟨b.cnt.cur, 0, 0⟩
      ({ b with st := .opn, gen := b.gen + 1, cnt := c, expires := b.now + P.backoff c },
       [.stateChange .closed .opn, .backoff (P.backoff c) (b.now + P.backoff c)]) := by
  simp [afterCore, onFailure, setState, setBackoff, clearCounts, hs, ht]

theorem afterCore_failure_count (hs : b.st = .closed) (ht : ¬P.trip ⟨b.cnt.cur, 0, b.cnt.fail + 1⟩ = true) :
    afterCore P b false b.gen = ({ b with cnt := ⟨b.cnt.cur, 0, b.cnt.fail + 1⟩ }, []) := by
  simp [afterCore, onFailure, hs, ht]

theorem afterCore_failure_open (hs : b.st = .opn) :
    afterCore P b false b.gen =
      let c : Counts := ⟨b.cnt.cur, 0, b.cnt.fail + 1⟩
      ({ b with cnt := c, expires := b.now + P.backoff c }, [.backoff (P.backoff c) (b.now + P.backoff c)]) := by
  simp [afterCore, onFailure, setBackoff, hs]

theorem afterCore_failure_halfOpen (hs : b.st = .halfOpen) :
    afterCore P b false b.gen =
      let c : Counts := ⟨b.cnt.cur, 0, b.cnt.fail + 1⟩
      ({ b with st := .opn, gen := b.gen + 1, cnt := c, expires := b.now + P.backoff c },
       [.stateChange .halfOpen .opn, .backoff (P.backoff c) (b.now + P.backoff c)]) := by
  simp [afterCore, onFailure, setState, setBackoff, hs]

end afterCore

/-! ### State and generation move together

`Moves b r` says of an operation that took the breaker from `b` to `r.1` and fired the hooks `r.2`: the generation went up by the
number of state changes announced, each announced change is a real one, and where none is announced the state is the same.
(The count of calls in flight is left alone: that is the business of `beforeRequest` and of the decrement.)  It composes, and it
is all the invariant needs to know about `cs` and `afterCore`. -/
structure Moves (b : B) (r : B × List Hook) : Prop where
  gen    : r.1.gen = b.gen + nChanges r.2
  proper : hooksProper r.2
  st     : nChanges r.2 = 0 → r.1.st = b.st
  cur    : r.1.cnt.cur = b.cnt.cur

theorem Moves.trans {b : B} {r r' : B × List Hook} (m : Moves b r) (m' : Moves r.1 r') :
    Moves b (r'.1, r.2 ++ r'.2) := by
  refine ⟨?_, hooksProper_append m.proper m'.proper, fun h0 => ?_, m'.cur.trans m.cur⟩
  · simp only [nChanges_append, m'.gen, m.gen]; omega
  · rw [nChanges_append] at h0; exact (m'.st (by omega)).trans (m.st (by omega))

theorem cs_moves (b : B) : Moves b (cs b) := by
  by_cases h : b.st = .opn ∧ b.now > b.expires
  · rw [cs_of_expired h.1 h.2]; constructor <;> simp [nChanges, hooksProper]
  · rw [cs_of_not_expired h]; constructor <;> simp [hooksProper]

theorem afterCore_moves (P : Params) (b : B) (ok : Bool) (g : Int) : Moves b (afterCore P b ok g) := by
  by_cases hg : g = b.gen
  · subst hg
    cases ok
    · cases hs : b.st
      · by_cases ht : P.trip ⟨b.cnt.cur, 0, b.cnt.fail + 1⟩ = true
        · rw [afterCore_failure_trip hs ht]; constructor <;> simp [nChanges, hooksProper, hs]
        · rw [afterCore_failure_count hs ht]; constructor <;> simp [hooksProper]
      · rw [afterCore_failure_halfOpen hs]; constructor <;> simp [nChanges, hooksProper, hs]
      · rw [afterCore_failure_open hs]; constructor <;> simp [nChanges, hooksProper]
    · by_cases hr : b.st = .halfOpen ∧ P.reset ⟨b.cnt.cur, b.cnt.succ + 1, 0⟩ = true
      · rw [afterCore_success_reset hr.1 hr.2]; constructor <;> simp [nChanges, hooksProper, hr.1]
      · rw [afterCore_success_count hr]; constructor <;> simp [hooksProper]
  · rw [afterCore_stale hg]; constructor <;> simp [hooksProper]

theorem afterRequest_moves (P : Params) (b : B) (ok : Bool) (n : Int) : Moves (decr b) (afterRequest P b ok n) :=
  (cs_moves (decr b)).trans (afterCore_moves P _ ok n)

def countGen (l : List (Nat × Int)) (n : Int) : Nat := (l.filter (fun p => p.2 = n)).length

/-- `l` is the ghost list of calls in flight beside the breaker `b`. -/
structure Inv (P : Params) (b : B) (l : List (Nat × Int)) : Prop where
  cur_len   : b.cnt.cur = l.length
  gens_le   : ∀ p ∈ l, p.2 ≤ b.gen
  -- Open is entered only by a state change, i.e. with a fresh generation, and admits nobody; half-open admits up to the cap
  opn_none  : b.st = .opn → ∀ p ∈ l, p.2 ≠ b.gen
  half_cap  : b.st = .halfOpen → (countGen l b.gen : Int) ≤ P.halfOpenMax
  ids       : l.Pairwise (fun p q => p.1 ≠ q.1)

theorem countGen_eq_zero {l : List (Nat × Int)} {n : Int} (h : ∀ p ∈ l, p.2 ≠ n) : countGen l n = 0 := by
  rw [countGen, List.length_eq_zero_iff, List.filter_eq_nil_iff]
  intro p hp; simpa using h p hp

theorem lookupGen_none {l : List (Nat × Int)} {i : Nat} (h : lookupGen l i = none) : ∀ p ∈ l, p.1 ≠ i := by
  simpa [lookupGen] using h

theorem lookupGen_some {l : List (Nat × Int)} {i : Nat} {n : Int} (h : lookupGen l i = some n) :
    (i, n) ∈ l :=
  List.mem_of_find?_fst_map_snd h

/-- With distinct ids, completing call `i` takes exactly one entry out. -/
theorem length_removeId {l : List (Nat × Int)} {i : Nat} {n : Int}
    (hn : l.Pairwise (fun p q => p.1 ≠ q.1)) (hm : (i, n) ∈ l) :
    (removeId l i).length + 1 = l.length := by
  induction l with
  | nil => cases hm
  | cons p t ih =>
    have ⟨hp, ht⟩ := List.pairwise_cons.1 hn
    rcases List.mem_cons.1 hm with rfl | hm
    · rw [removeId, List.filter_cons_of_neg (by simp),
        List.filter_eq_self.2 fun q hq => by simpa using (hp q hq).symm, List.length_cons]
    · have : p.1 ≠ i := hp _ hm
      simpa [removeId, this] using ih ht hm

theorem inv_init (P : Params) (hmax : 0 ≤ P.halfOpenMax) : Inv P B.init [] := by
  refine ⟨rfl, ?_, ?_, ?_, ?_⟩ <;> simp [B.init, countGen, hmax]

/-- An operation that leaves the in-flight list and count alone keeps the invariant: if it announces no state change, state and
generation are as before; otherwise the generation is new, so no call in flight carries it. -/
theorem Inv.moves {P : Params} (hmax : 0 ≤ P.halfOpenMax) {b : B} {l : List (Nat × Int)} {r : B × List Hook}
    (h : Inv P b l) (m : Moves b r) : Inv P r.1 l := by
  have hg := m.gen; have hc := m.cur
  by_cases h0 : nChanges r.2 = 0
  · have hs := m.st h0
    have hg : r.1.gen = b.gen := by omega
    exact ⟨hc.trans h.cur_len, fun p hp => hg ▸ h.gens_le p hp, fun ho => hg ▸ h.opn_none (hs ▸ ho),
      fun hh => hg ▸ h.half_cap (hs ▸ hh), h.ids⟩
  · have fresh : ∀ p ∈ l, p.2 < r.1.gen := fun p hp => by have := h.gens_le p hp; omega
    refine ⟨hc.trans h.cur_len, fun p hp => Int.le_of_lt (fresh p hp), fun _ p hp => Int.ne_of_lt (fresh p hp), fun _ => ?_, h.ids⟩
    rw [countGen_eq_zero fun p hp => Int.ne_of_lt (fresh p hp)]; exact hmax

theorem Inv.push {P : Params} {b : B} {l : List (Nat × Int)} {i : Nat} (h : Inv P b l)
    (hi : ∀ p ∈ l, p.1 ≠ i) (ho : b.st ≠ .opn) (hcap : b.st = .halfOpen → b.cnt.cur < P.halfOpenMax) :
    Inv P { b with cnt := { b.cnt with cur := b.cnt.cur + 1 } } ((i, b.gen) :: l) := by
  have hlen := h.cur_len
  refine ⟨?_, List.forall_mem_cons.2 ⟨Int.le_refl _, h.gens_le⟩, fun hop => absurd hop ho, fun hh => ?_,
    List.pairwise_cons.2 ⟨fun q hq => (hi q hq).symm, h.ids⟩⟩
  · simp only [List.length_cons]; omega
  · have := List.length_filter_le (fun p => p.2 = b.gen) l
    have := hcap hh
    simp only [countGen, List.filter_cons, decide_true, if_true, List.length_cons]; omega

theorem Inv.remove {P : Params} {b : B} {l : List (Nat × Int)} {i : Nat} {n : Int} (h : Inv P b l)
    (hm : (i, n) ∈ l) : Inv P (decr b) (removeId l i) := by
  have hlen := length_removeId h.ids hm
  have hcur := h.cur_len
  refine ⟨?_, fun p hp => h.gens_le p (List.mem_filter.1 hp).1, fun ho p hp => h.opn_none ho p (List.mem_filter.1 hp).1,
    fun hh => Int.le_trans (Int.ofNat_le.2 (List.filter_sublist.filter _).length_le) (h.half_cap hh), h.ids.filter _⟩
  show b.cnt.cur - 1 = ((removeId l i).length : Int); omega

theorem step_inv (P : Params) (hmax : 0 ≤ P.halfOpenMax) (g : G) (e : Ev) (h : Inv P g.b g.inflight) :
    Inv P (step P g e).1.b (step P g e).1.inflight := by
  obtain ⟨b, l⟩ := g
  cases e with
  | tick d => exact ⟨h.cur_len, h.gens_le, h.opn_none, h.half_cap, h.ids⟩
  | start i =>
    simp only [step]
    cases hl : lookupGen l i with
    | some n => exact h
    | none =>
      have h1 := h.moves hmax (cs_moves b)
      by_cases hr : Refuses P (cs b).1
      · rw [beforeRequest_reject hr]; exact h1
      · rw [beforeRequest_admit hr]
        exact h1.push (lookupGen_none hl) (fun ho => hr (.inl ho)) fun hh => Int.not_le.1 fun hc => hr (.inr ⟨hh, hc⟩)
  | complete i ok =>
    simp only [step]
    cases hl : lookupGen l i with
    | none => exact h
    | some n => exact (h.remove (lookupGen_some hl)).moves hmax (afterRequest_moves P b ok n)

theorem runState_inv (P : Params) (hmax : 0 ≤ P.halfOpenMax) (g : G) (es : List Ev) (h : Inv P g.b g.inflight) :
    Inv P (runState P g es).b (runState P g es).inflight :=
  List.foldlRecOn (motive := fun g => Inv P g.b g.inflight) es _ h fun g hg e _ => step_inv P hmax g e hg

theorem reachable_inv (P : Params) (hmax : 0 ≤ P.halfOpenMax) (g : G) (h : Reachable P g) : Inv P g.b g.inflight := by
  obtain ⟨es, rfl⟩ := h
  exact runState_inv P hmax _ es (inv_init P hmax)

theorem step_hooks (P : Params) (g : G) (e : Ev) :
    (step P g e).1.b.gen = g.b.gen + nChanges (hooksOf (step P g e).2) ∧ hooksProper (hooksOf (step P g e).2) := by
  obtain ⟨b, l⟩ := g
  cases e with
  | tick d => exact ⟨by simp [step, hooksOf], trivial⟩
  | start i =>
    simp only [step]
    cases hl : lookupGen l i with
    | some n => exact ⟨by simp [hooksOf], trivial⟩
    | none =>
      by_cases hr : Refuses P (cs b).1
      · rw [beforeRequest_reject hr]; exact ⟨(cs_moves b).gen, (cs_moves b).proper⟩
      · rw [beforeRequest_admit hr]; exact ⟨(cs_moves b).gen, (cs_moves b).proper⟩
  | complete i ok =>
    simp only [step]
    cases hl : lookupGen l i with
    | none => exact ⟨by simp [hooksOf], trivial⟩
    | some n => exact ⟨(afterRequest_moves P b ok n).gen, (afterRequest_moves P b ok n).proper⟩

end Sso.Breaker
