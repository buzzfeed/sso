import SsoModel.Prim.Base64

/-! The round trip of the base64 model on byte lists: `decodeGo (encode b) = some b`, and what the canonical decoder accepts. -/
namespace Sso.Base64

theorem decChar_encChar : ∀ n, n < 64 → decChar (encChar n) = some n := by decide

theorem encChar_notCRLF (n : Nat) : notCRLF (encChar n) = true := by
  -- every character of the alphabet is at least `'-'`
  have : 45 ≤ encChar n := by
    unfold encChar
    refine iteInduction (fun _ => ?_) fun _ => iteInduction (fun _ => ?_) fun _ =>
      iteInduction (fun _ => ?_) fun _ => iteInduction (fun _ => ?_) fun _ => ?_
    all_goals omega
  simp only [notCRLF, Bool.and_eq_true, bne_iff_ne]; omega

def Bytes (b : List Nat) : Prop := ∀ x ∈ b, x < 256

theorem filter_encode (b : List Nat) : (encode b).filter notCRLF = encode b := by
  induction b using encode.induct <;> simp [encode, encChar_notCRLF, *]

/-- A sextet is two bit fields side by side, `x * d + y` with `y < d`: `/ d` and `% d` (`Nat.mul_add_mod_of_lt`)
give the fields back. -/
theorem mul_add_div_of_lt {x y d : Nat} (hy : y < d) : (x * d + y) / d = x := by
  rw [Nat.add_comm, Nat.add_mul_div_right _ _ (Nat.zero_lt_of_lt hy), Nat.div_eq_of_lt hy, Nat.zero_add]

theorem decodeChars_encode (b : List Nat) (hb : Bytes b) : decodeChars (encode b) = some b := by
  induction b using encode.induct with simp only [Bytes, List.forall_mem_cons] at hb
  | case1 => rfl
  | case2 b0 =>
    simp (disch := omega) only [encode, decodeChars, decChar_encChar, Nat.mul_div_cancel, Nat.div_add_mod']
  | case3 b0 b1 =>
    simp (disch := omega) only [encode, decodeChars, decChar_encChar, mul_add_div_of_lt, Nat.mul_add_mod_of_lt,
      Nat.mul_div_cancel, Nat.div_add_mod']
  | case4 b0 b1 b2 t ih =>
    simp (disch := omega) only [encode, decodeChars, ih hb.2.2.2, decChar_encChar, mul_add_div_of_lt,
      Nat.mul_add_mod_of_lt, Nat.div_add_mod']

theorem decodeGo_encode (b : List Nat) (hb : Bytes b) : decodeGo (encode b) = some b := by
  rw [decodeGo, filter_encode]; exact decodeChars_encode b hb

theorem decodeCanonical_eq_some {s b : List Nat} :
    decodeCanonical s = some b ↔ decodeGo s = some b ∧ encode b = s := by
  unfold decodeCanonical
  cases decodeGo s with
  | none => simp
  | some b' =>
    simp only [Option.ite_none_right_eq_some, Option.some.injEq]
    exact ⟨by rintro ⟨h, rfl⟩; exact ⟨rfl, h⟩, by rintro ⟨rfl, h⟩; exact ⟨h, rfl⟩⟩

end Sso.Base64
