import Generated.Facts
import SsoSpec.Lemmas.AuthN
import SsoSpec.Lemmas.List

/-!
# C09 — the authenticator issues codes only for live, provider-confirmed, allowed sessions
-/
namespace Sso.AuthN
open Sso.Validators

/-- **A code only if** the cookie opens under the authenticator's cookie secret to a session within its lifetime, whose
token the identity provider currently accepts (after a successful refresh if one was due and a refresh token exists),
whose e-mail passes the authenticator's e-mail rule, and the request carries a state; the sealed code is exactly that
(refreshed) session. -/
theorem C09_code_only_if (lower : Bytes → Bytes) (emailOK : Bytes → Bool) (now : Int) (c : CookieIn) (a : IdPAns)
    (state redirect : String) (parses : Bool) (sc : ASess) (w : List AWrite) (calls : List String)
    (h : signIn lower emailOK now c a state redirect parses = (.codeRedirect sc, w, calls)) :
    state ≠ "" ∧ redirect ≠ "" ∧ parses = true ∧
    ∃ s, c = .opens s ∧ aexp s.lifetime now = false ∧ emailOK sc.email = true ∧ sc.email = s.email ∧ sc.lifetime = s.lifetime ∧
      ((aexp s.refresh now = true ∧ s.refreshTok ≠ "" ∧ ∃ tok ttl, a.refresh = .ok (tok, ttl) ∧ sc = { s with access := tok, refresh := now + ttl })
       ∨ (aexp s.refresh now = false ∧ s.access ≠ "" ∧ a.validate = true ∧ sc = s)) := by
  obtain ⟨hok, hst, hrd, hp⟩ := signIn_code_only_if sc (by rw [h])
  obtain ⟨hsv, hem⟩ := authenticate_ok_saves sc hok
  obtain ⟨s, hc, hl, he, hlt, -, hd⟩ := authenticate_saves_only_if sc (by rw [hsv]; exact .head _)
  exact ⟨hst, hrd, hp, s, hc, hl, hem, he, hlt, hd⟩

/-- Refreshes never extend the authenticator session's lifetime: whatever `authenticate` re-saves has the presented
session's lifetime deadline and e-mail. -/
theorem C09_auth_lifetime_frame (lower : Bytes → Bytes) (emailOK : Bytes → Bool) (now : Int) (s : ASess) (a : IdPAns) :
    ∀ w ∈ (authenticate lower emailOK now (.opens s) a).2.1, ∀ s', w = .save s' → s'.lifetime = s.lifetime ∧ s'.email = s.email ∧ s'.refreshTok = s.refreshTok := by
  rintro _ hw s' rfl
  obtain ⟨_, hc, -, he, hl, hr, -⟩ := authenticate_saves_only_if s' hw
  cases hc
  exact ⟨hl, he, hr⟩

/-- The identity-provider callback creates a session **only if** the nonce in the returned state equals the CSRF cookie
set at `/start`, the code was redeemed to a session (C10), the state's redirect is in-domain and the e-mail passes the rule. -/
theorem C09_callback_creates_session_only_if (emailOK : Bytes → Bool) (i : CbIn) (e : Bytes) (loc : String)
    (h : oauthCallback emailOK i = .session e loc) :
    i.errorParam = "" ∧ i.code ≠ "" ∧ (∃ at' rt ttl, i.login = .session e at' rt ttl) ∧ e ≠ [] ∧ i.stateDecodes = true ∧
    i.stateHasColon = true ∧ i.csrfCookie = some i.stateNonce ∧ i.redirectValid = true ∧ emailOK e = true ∧ loc = i.stateRedirect := by
  revert h
  fun_cases oauthCallback emailOK i <;> intro h <;> cases h
  -- only the last branch of `oauthCallback` creates a session; every check before it is in the context
  simp_all

/-- otherwise: sign-in page or error, no code — the three outcomes are exhaustive and only one carries a code -/
theorem C09_no_code_otherwise (lower : Bytes → Bytes) (emailOK : Bytes → Bool) (now : Int) (c : CookieIn) (a : IdPAns)
    (state redirect : String) (parses : Bool) :
    (∃ s, (signIn lower emailOK now c a state redirect parses).1 = .codeRedirect s) ∨
    (signIn lower emailOK now c a state redirect parses).1 = .signInPage ∨
    (∃ n, (signIn lower emailOK now c a state redirect parses).1 = .error n) := by
  cases h : (signIn lower emailOK now c a state redirect parses).1 with
  | codeRedirect s => exact Or.inl ⟨s, rfl⟩
  | signInPage => exact Or.inr (Or.inl rfl)
  | error n => exact Or.inr (Or.inr ⟨n, rfl⟩)

/-- Tie (T1): the authenticator coalesces concurrent validations **by access token** and refreshes **by refresh token**,
so the "provider confirms the token" premise of `C09_code_only_if` is about the session's *own* token even when another
session of the same user is being validated at the same time. -/
theorem C09_checks_keyed_by_token :
    Sso.Generated.sf_keys_auth.lookup "ValidateSessionState" = some "s.AccessToken" ∧
    Sso.Generated.sf_keys_auth.lookup "RefreshSessionIfNeeded" = some "s.RefreshToken" := by decide

def asaves : List AWrite → List ASess
  | [] => []
  | .save s :: t => s :: asaves t
  | .clear :: t => asaves t

theorem mem_asaves {s : ASess} {l : List AWrite} : s ∈ asaves l ↔ .save s ∈ l := by
  induction l with
  | nil => simp [asaves]
  | cons x t ih => cases x <;> simp [asaves, ih]

/-- one browser's authenticator cookies: the session the IdP callback created and everything re-saved since -/
structure AWorld where
  root : ASess
  issued : List ASess

inductive APresented where
  | nth (i : Nat) | none | garbage

def AWorld.cookie (w : AWorld) : APresented → CookieIn
  | .nth i => .opens ((w.issued ++ [w.root])[i]?.getD w.root)
  | .none => .absent
  | .garbage => .junk

structure AStep where
  now : Int
  presented : APresented
  ans : IdPAns
  state : String
  redirect : String
  redirectParses : Bool

def stepA (lower : Bytes → Bytes) (emailOK : Bytes → Bool) (w : AWorld) (st : AStep) : AWorld × SignInOut :=
  let o := signIn lower emailOK st.now (w.cookie st.presented) st.ans st.state st.redirect st.redirectParses
  ({ w with issued := asaves o.2.1 ++ w.issued }, o.1)

def runA (lower : Bytes → Bytes) (emailOK : Bytes → Bool) (w : AWorld) : List AStep → AWorld × List SignInOut
  | [] => (w, [])
  | st :: t =>
    let (w', o) := stepA lower emailOK w st
    let (w'', os) := runA lower emailOK w' t
    (w'', o :: os)

def AInv (w : AWorld) : Prop := ∀ s ∈ w.issued, s.lifetime = w.root.lifetime ∧ s.email = w.root.email

theorem AInv.cookie {w : AWorld} (hw : AInv w) {p : APresented} {s : ASess} (h : w.cookie p = .opens s) :
    s.lifetime = w.root.lifetime ∧ s.email = w.root.email := by
  cases p <;> cases h
  rcases List.getD_append_singleton w.issued w.root ‹_› with h | h
  · exact hw _ h
  · rw [h]; exact ⟨rfl, rfl⟩

theorem AInv.saved {w : AWorld} (hw : AInv w) (lower : Bytes → Bytes) (emailOK : Bytes → Bool) (now : Int) (p : APresented)
    (a : IdPAns) (s : ASess) (h : .save s ∈ (authenticate lower emailOK now (w.cookie p) a).2.1) :
    aexp w.root.lifetime now = false ∧ s.lifetime = w.root.lifetime ∧ s.email = w.root.email := by
  obtain ⟨s0, hc, hl, he, hlt, -⟩ := authenticate_saves_only_if s h
  obtain ⟨h1, h2⟩ := hw.cookie hc
  exact ⟨h1 ▸ hl, hlt.trans h1, he.trans h2⟩

theorem stepA_inv (lower : Bytes → Bytes) (emailOK : Bytes → Bool) (w : AWorld) (st : AStep) (hw : AInv w) :
    AInv (stepA lower emailOK w st).1 := by
  intro s hs
  rcases List.mem_append.1 hs with hs | hs
  · exact (hw.saved lower emailOK st.now st.presented st.ans s ((signIn_saves ..).1 (mem_asaves.1 hs))).2
  · exact hw s hs

/-- **Codes only within the lifetime fixed at login, along every history.** Start from the session the IdP callback
created at `t₀` (lifetime `t₀ + L`). Along every history of sign-in requests — any timing, any provider answers, any
refreshes, replays of older cookies of the chain — a code is issued at time `now` only if `now ≤ t₀ + L`; the code's
session carries that same lifetime deadline and the same e-mail, so `/redeem` refuses it once the lifetime has passed. -/
theorem C09_code_lifetime_bound (lower : Bytes → Bytes) (emailOK : Bytes → Bool) (w : AWorld) (sts : List AStep) (hw : AInv w) :
    ∀ p ∈ sts.zip (runA lower emailOK w sts).2, ∀ s, p.2 = .codeRedirect s →
      p.1.now ≤ w.root.lifetime ∧ s.lifetime = w.root.lifetime ∧ s.email = w.root.email := by
  induction sts generalizing w with
  | nil => intro p hp; cases hp
  | cons st t ih =>
    intro p hp s hs
    simp only [runA, List.zip_cons_cons, List.mem_cons] at hp
    rcases hp with rfl | hp
    · -- the code's session is the one `authenticate` has just re-saved
      obtain ⟨hok, -⟩ := signIn_code_only_if s hs
      have := hw.saved lower emailOK st.now st.presented st.ans s ((authenticate_ok_saves s hok).1 ▸ .head _)
      exact ⟨by simpa [aexp] using this.1, this.2⟩
    · exact ih (stepA lower emailOK w st).1 (stepA_inv lower emailOK w st hw) p hp s hs

/-! ### The CSRF cookie across a browser's history at the authenticator

`/start` sets the cookie to a fresh nonce; the callback reads it and — as soon as it has read it, matching or not — clears it.
A browser's history is a list of such events; the callback's `csrfCookie` input is whatever the history left in the jar. -/

theorem session_reads_cookie (emailOK : Bytes → Bool) (i : CbIn) (e : Bytes) (loc : String)
    (h : oauthCallback emailOK i = .session e loc) : readsCookie i = true := by
  obtain ⟨h1, h2, ⟨a, r, t, h3⟩, h4, h5, h6, _⟩ := C09_callback_creates_session_only_if emailOK i e loc h
  simp [readsCookie, h1, h2, h3, h4, h5, h6]

/-- no `/start`, and no callback that got as far as reading the cookie -/
def Untouched (evs : List CEv) : Prop :=
  ∀ ev ∈ evs, match ev with
    | .start _ => False
    | .callback j => readsCookie j = false

theorem jar_some_origin (evs : List CEv) (j0 : Option String) (n : String) (h : evs.foldl jarStep j0 = some n) :
    (∃ before after, evs = before ++ .start n :: after ∧ Untouched after) ∨ (j0 = some n ∧ Untouched evs) := by
  induction evs generalizing j0 with
  | nil => exact .inr ⟨h, fun _ hev => nomatch hev⟩
  | cons ev t ih =>
    rcases ih _ h with ⟨b, a, rfl, ha⟩ | ⟨hj, ht⟩
    · exact .inl ⟨ev :: b, a, rfl, ha⟩
    · -- nothing after `ev` touched the jar, so `ev` left `n` in it: `ev` is the `/start`, or a callback that did not read
      cases ev with
      | start m => cases hj; exact .inl ⟨[], t, rfl, ht⟩
      | callback j =>
        rw [jarStep] at hj
        split at hj
        · cases hj
        · rename_i hc
          subst hj
          exact .inr ⟨rfl, List.forall_mem_cons.2 ⟨by simpa using hc, ht⟩⟩

theorem callbackIn_session_jar {emailOK : Bytes → Bool} {pre : List CEv} {i : CbIn} {e : Bytes} {loc : String}
    (h : callbackIn emailOK pre i = .session e loc) : jarOf pre = some i.stateNonce :=
  (C09_callback_creates_session_only_if emailOK _ e loc h).2.2.2.2.2.2.1

/-- **The nonce a session-creating callback rides on is the one the most recent `/start` of this browser handed out, and
nothing has read the cookie since.** In particular it is a nonce this service generated — never a value of the caller's
choosing, never the empty string unless `/start` handed that out. -/
theorem C09_callback_nonce_is_outstanding_start (emailOK : Bytes → Bool) (pre : List CEv) (i : CbIn) (e : Bytes) (loc : String)
    (h : callbackIn emailOK pre i = .session e loc) :
    ∃ before after, pre = before ++ .start i.stateNonce :: after ∧ Untouched after := by
  rcases jar_some_origin pre none i.stateNonce (callbackIn_session_jar h) with h1 | ⟨h1, _⟩
  · exact h1
  · cases h1

/-- **One shot**: right after a callback that read the cookie (whether it created a session or failed on the nonce, the
redirect or the e-mail rule), no callback creates a session until `/start` runs again — a replayed or second forged callback
finds no cookie. -/
theorem C09_callback_one_shot (emailOK : Bytes → Bool) (pre : List CEv) (i j : CbIn) (hr : readsCookie i = true) :
    ∀ e loc, callbackIn emailOK (pre ++ [.callback i]) j ≠ .session e loc := by
  intro e loc h
  -- the jar after `.callback i` is empty whatever it held before
  have hj := callbackIn_session_jar h
  rw [jarOf, List.foldl_append] at hj
  cases hp : List.foldl jarStep none pre <;> simp [hp, jarStep, hr] at hj

/-- with no `/start` in the history no callback creates a session, whatever state, code and e-mail it carries -/
theorem C09_no_start_no_session (emailOK : Bytes → Bool) (pre : List CEv) (i : CbIn)
    (hn : ∀ ev ∈ pre, match ev with | .start _ => False | .callback _ => True) :
    ∀ e loc, callbackIn emailOK pre i ≠ .session e loc := by
  intro e loc h
  obtain ⟨b, a, rfl, _⟩ := C09_callback_nonce_is_outstanding_start emailOK pre i e loc h
  exact hn (.start i.stateNonce) (by simp)

-- the hypotheses are satisfiable: a start followed by the matching callback creates the session
example : callbackIn (fun _ => true) [.start "n1"]
    { errorParam := "", code := "c", login := .session [97] "at" "rt" 60, stateDecodes := true, stateNonce := "n1",
      stateRedirect := "https://app.x.io/", stateHasColon := true, csrfCookie := none, redirectValid := true } =
    .session [97] "https://app.x.io/" := by
  simp [callbackIn, jarOf, jarStep, oauthCallback]

/-- Tie (T1): the authenticator's own `authenticate`, `SignIn` and the code-issuing redirect. -/
theorem C09_wiring :
    Sso.Generated.skel_auth_authenticate =
      ["call:getRemoteAddr", "call:LoadSession", "if{", "call:ClearSession", "return", "}", "call:LifetimePeriodExpired", "if{", "call:ClearSession", "return", "}", "call:RefreshPeriodExpired", "if{", "call:RefreshSessionIfNeeded", "if{", "call:ClearSession", "return", "}", "if{", "call:ClearSession", "return", "}", "call:SaveSession", "if{", "call:ClearSession", "return", "}", "}", "else{", "call:ValidateSessionState", "if{", "call:ClearSession", "return", "}", "call:SaveSession", "if{", "call:ClearSession", "return", "}", "}", "call:RunValidators", "call:len", "call:len", "if{", "return", "}", "return"] ∧
    Sso.Generated.skel_auth_SignIn =
      ["call:getProxyHost", "call:authenticate", "switch{", "case nil{", "call:ProxyOAuthRedirect", "}", "case http.ErrNoCookie{", "call:SignInPage", "}", "case providers.ErrTokenRevoked{", "call:ClearSession", "call:SignInPage", "}", "case sessions.ErrLifetimeExpired,sessions.ErrInvalidSession{", "call:ClearSession", "call:SignInPage", "}", "default{", "call:Error", "call:codeForError", "call:ErrorResponse", "}", "}"] ∧
    Sso.Generated.skel_auth_ProxyOAuthRedirect =
      ["call:ParseForm", "if{", "call:Error", "call:ErrorResponse", "return", "}", "call:Get", "if{", "call:ErrorResponse", "return", "}", "call:Get", "if{", "call:ErrorResponse", "return", "}", "call:Parse", "if{", "call:ErrorResponse", "return", "}", "call:MarshalSession", "if{", "call:Error", "call:ErrorResponse", "return", "}", "call:string", "call:getAuthCodeRedirectURL", "if{", "call:Error", "call:ErrorResponse", "return", "}", "call:Redirect"] := ⟨rfl, rfl, rfl⟩

/-- Tie (T1): helpers, stores and second callers on this property's path (aead_GenerateKey, store_SetCSRF, store_GetCSRF, store_ClearCSRF, auth_OAuthStart, auth_OAuthCallback, auth_getOAuthCallback, google_RefreshSessionIfNeeded, okta_RefreshSessionIfNeeded, google_ValidateSessionState, okta_ValidateSessionState). -/
theorem C09_wiring2 :
    Sso.Generated.skel_aead_GenerateKey =
      ["call:GenerateKey", "return"] ∧
    Sso.Generated.skel_store_SetCSRF =
      ["call:Now", "call:makeCSRFCookie", "call:SetCookie"] ∧
    Sso.Generated.skel_store_GetCSRF =
      ["call:Cookie", "return"] ∧
    Sso.Generated.skel_store_ClearCSRF =
      ["call:Now", "call:makeCSRFCookie", "call:SetCookie"] ∧
    Sso.Generated.skel_auth_OAuthStart =
      ["call:GenerateKey", "call:Sprintf", "call:SetCSRF", "call:Query", "call:Get", "call:Parse", "call:String", "call:validRedirectURI", "if{", "call:ErrorResponse", "return", "}", "call:Query", "call:Get", "call:Parse", "call:String", "call:validRedirectURI", "if{", "call:ErrorResponse", "return", "}", "call:Query", "call:Get", "call:Query", "call:Get", "call:String", "call:validSignature", "if{", "call:ErrorResponse", "return", "}", "call:GetRedirectURI", "call:String", "call:Sprintf", "call:?", "call:EncodeToString", "call:GetSignInURL", "call:Redirect"] ∧
    Sso.Generated.skel_auth_OAuthCallback =
      ["call:getOAuthCallback", "typeswitch{", "case{", "break", "}", "case{", "call:ErrorResponse", "return", "}", "case{", "call:ErrorResponse", "return", "}", "}", "call:Redirect"] ∧
    Sso.Generated.skel_auth_getOAuthCallback =
      ["call:getRemoteAddr", "call:ParseForm", "if{", "call:Error", "return", "}", "call:Get", "if{", "return", "}", "call:Get", "if{", "return", "}", "call:redeemCode", "if{", "return", "}", "call:Get", "call:DecodeString", "if{", "return", "}", "call:string", "call:SplitN", "call:len", "if{", "return", "}", "call:GetCSRF", "if{", "return", "}", "call:ClearCSRF", "if{", "return", "}", "call:validRedirectURI", "if{", "return", "}", "call:RunValidators", "call:len", "call:len", "if{", "call:len", "call:make", "range{", "call:Error", "call:append", "}", "call:Join", "call:Sprintf", "return", "}", "call:SaveSession", "if{", "return", "}", "return"] ∧
    Sso.Generated.skel_google_RefreshSessionIfNeeded =
      ["call:RefreshPeriodExpired", "if{", "return", "}", "call:RefreshAccessToken", "if{", "return", "}", "store:s.AccessToken", "call:Now", "call:Add", "call:Truncate", "store:s.RefreshDeadline", "return"] ∧
    Sso.Generated.skel_okta_RefreshSessionIfNeeded =
      ["call:RefreshPeriodExpired", "if{", "return", "}", "call:RefreshAccessToken", "if{", "return", "}", "store:s.AccessToken", "call:Now", "call:Add", "call:Truncate", "store:s.RefreshDeadline", "return"] ∧
    Sso.Generated.skel_google_ValidateSessionState =
      ["if{", "return", "}", "call:Set", "call:String", "call:googleRequest", "if{", "return", "}", "return"] ∧
    Sso.Generated.skel_okta_ValidateSessionState =
      ["if{", "return", "}", "call:Add", "call:Add", "call:Add", "call:Add", "call:String", "call:oktaRequest", "if{", "return", "}", "if{", "return", "}", "return"] := ⟨rfl, rfl, rfl, rfl, rfl, rfl, rfl, rfl, rfl, rfl, rfl⟩

/-- Tie (T1): the decoder tags of sso-auth's configuration structs (`internal/auth/configuration.go`): the names under which the environment and the files reach each
setting this property depends on. -/
theorem C09_tags_authConfigTags : Sso.Generated.authConfigTags =
    ["Configuration.ProviderConfigs mapstructure:\"provider\"", "Configuration.ClientConfigs mapstructure:\"client\"", "Configuration.GroupCacheConfig mapstructure:\"groupcache\"", "Configuration.AuthorizeConfig mapstructure:\"authorize\"", "Configuration.SessionConfig mapstructure:\"session\"", "Configuration.ServerConfig mapstructure:\"server\"", "Configuration.MetricsConfig mapstructure:\"metrics\"", "Configuration.LoggingConfig mapstructure:\"logging\"", "ProviderConfig.ProviderType mapstructure:\"type\"", "ProviderConfig.ProviderSlug mapstructure:\"slug\"", "ProviderConfig.ClientConfig mapstructure:\"client\"", "ProviderConfig.Scope mapstructure:\"scope\"", "ProviderConfig.GoogleProviderConfig mapstructure:\"google\"", "ProviderConfig.OktaProviderConfig mapstructure:\"okta\"", "ProviderConfig.AmazonCognitoProviderConfig mapstructure:\"cognito\"", "ProviderConfig.GroupCacheConfig mapstructure:\"groupcache\"", "GoogleProviderConfig.Credentials mapstructure:\"credentials\"", "GoogleProviderConfig.Impersonate mapstructure:\"impersonate\"", "GoogleProviderConfig.ApprovalPrompt mapstructure:\"prompt\"", "GoogleProviderConfig.HostedDomain mapstructure:\"domain\"", "OktaProviderConfig.ServerID mapstructure:\"server\"", "OktaProviderConfig.OrgURL mapstructure:\"url\"", "AmazonCognitoProviderConfig.OrgURL mapstructure:\"url\"", "AmazonCognitoProviderConfig.UserPoolID mapstructure:\"id\"", "AmazonCognitoProviderConfig.Region mapstructure:\"region\"", "AmazonCognitoProviderConfig.Credentials mapstructure:\"credentials\"", "CognitoCredentials.ID mapstructure:\"id\"", "CognitoCredentials.Secret mapstructure:\"secret\"", "GroupCacheConfig.CacheIntervalConfig mapstructure:\"interval\"", "CacheIntervalConfig.Provider mapstructure:\"provider\"", "CacheIntervalConfig.Refresh mapstructure:\"refresh\"", "SessionConfig.CookieConfig mapstructure:\"cookie\"", "SessionConfig.SessionLifetimeTTL mapstructure:\"lifetime\"", "SessionConfig.Key mapstructure:\"key\"", "CookieConfig.Name mapstructure:\"name\"", "CookieConfig.Secret mapstructure:\"secret\"", "CookieConfig.Domain mapstructure:\"domain\"", "CookieConfig.Expire mapstructure:\"expire\"", "CookieConfig.Secure mapstructure:\"secure\"", "CookieConfig.HTTPOnly mapstructure:\"httponly\"", "ServerConfig.Host mapstructure:\"host\"", "ServerConfig.Port mapstructure:\"port\"", "ServerConfig.Scheme mapstructure:\"scheme\"", "ServerConfig.TimeoutConfig mapstructure:\"timeout\"", "TimeoutConfig.Write mapstructure:\"write\"", "TimeoutConfig.Read mapstructure:\"read\"", "TimeoutConfig.Request mapstructure:\"request\"", "TimeoutConfig.Shutdown mapstructure:\"shutdown\"", "ClientConfig.ID mapstructure:\"id\"", "ClientConfig.Secret mapstructure:\"secret\"", "AuthorizeConfig.EmailConfig mapstructure:\"email\"", "AuthorizeConfig.ProxyConfig mapstructure:\"proxy\"", "EmailConfig.Domains mapstructure:\"domains\"", "EmailConfig.Addresses mapstructure:\"addresses\"", "ProxyConfig.Domains mapstructure:\"domains\"", "MetricsConfig.StatsdConfig mapstructure:\"statsd\"", "LoggingConfig.Enable mapstructure:\"enable\"", "LoggingConfig.Level mapstructure:\"level\"", "StatsdConfig.Port mapstructure:\"port\"", "StatsdConfig.Host mapstructure:\"host\""] := rfl

/-- Tie (T1): the constructors and option functions that hand configured values to the components this property
speaks about (auth_SetValidators, auth_NewAuthenticator, auth_getAuthCodeRedirectURL). -/
theorem C09_wiring3 :
    Sso.Generated.skel_auth_SetValidators =
      ["func{", "store:a.Validators", "return", "}", "return"] ∧
    Sso.Generated.skel_auth_NewAuthenticator =
      ["call:NewHTMLTemplate", "range{", "call:HasPrefix", "if{", "call:Sprintf", "}", "call:append", "}", "call:newMux", "store:p.ServeMux", "range{", "call:optFunc", "if{", "return", "}", "}", "return"] ∧
    Sso.Generated.skel_auth_getAuthCodeRedirectURL =
      ["call:String", "call:Parse", "if{", "return", "}", "call:ParseQuery", "if{", "return", "}", "call:Set", "call:Set", "call:Encode", "store:u.RawQuery", "store:u.Scheme", "call:String", "return"] := ⟨rfl, rfl, rfl⟩

end Sso.AuthN
