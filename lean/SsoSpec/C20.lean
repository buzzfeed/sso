import SsoModel.Prim.Html
import Generated.Facts

/-!
# C20 — rendered pages treat request-controlled text as inert
-/
namespace Sso.Html

/-- The characters html/template's replacement table has an entry for; every other character is written as it is. -/
def specials : List Char := ['\x00', '"', '&', '\'', '+', '<', '>']

theorem escChar_plain {c : Char} (h : c ∉ specials) : escChar c = [c] := by
  simp only [specials, List.mem_cons, List.not_mem_nil, or_false, not_or] at h
  simp only [escChar, h, ↓reduceIte]

theorem ne_of_not_special {c d : Char} (hc : c ∉ specials) (hd : d ∈ specials := by decide) : c ≠ d :=
  fun e => hc (e ▸ hd)

theorem escChar_safe (c : Char) : ∀ x ∈ escChar c, x ≠ '<' ∧ x ≠ '>' ∧ x ≠ '"' ∧ x ≠ '\'' := by
  by_cases hc : c ∈ specials
  · revert c; decide
  · rw [escChar_plain hc, List.forall_mem_singleton]
    exact ⟨ne_of_not_special hc, ne_of_not_special hc, ne_of_not_special hc, ne_of_not_special hc⟩

/-- **The escaped form of any string contains none of the structural characters** `<`, `>`, `"`, `'`. -/
theorem C20_escape_no_structural_char (s : List Char) : ∀ x ∈ htmlEscape s, x ≠ '<' ∧ x ≠ '>' ∧ x ≠ '"' ∧ x ≠ '\'' := by
  intro x hx
  unfold htmlEscape at hx
  rcases List.mem_flatMap.1 hx with ⟨c, _, hc⟩
  exact escChar_safe c x hc

theorem runTok_append (st : TState) (a b : List Char) : runTok st (a ++ b) = runTok (runTok st a) b :=
  List.foldl_append

/-- In a text node only `<`, inside a double-quoted attribute value only `"`, makes the tokenizer leave its state. -/
theorem stepTok_inert {st : TState} (hst : st = .data ∨ st = .attrDQ) {c : Char} (h₁ : c ≠ '<') (h₂ : c ≠ '"') :
    stepTok st c = st := by
  rcases hst with rfl | rfl
  · exact if_neg h₁
  · exact if_neg h₂

theorem runTok_inert {st : TState} (hst : st = .data ∨ st = .attrDQ) {s : List Char}
    (h : ∀ x ∈ s, x ≠ '<' ∧ x ≠ '"') : runTok st s = st :=
  List.foldlRecOn (motive := (· = st)) s stepTok rfl fun _ e c hc => e ▸ stepTok_inert hst (h c hc).1 (h c hc).2

theorem runTok_escape {st : TState} (hst : st = .data ∨ st = .attrDQ) (s : List Char) :
    runTok st (htmlEscape s) = st :=
  runTok_inert hst fun x hx => have h := C20_escape_no_structural_char s x hx; ⟨h.1, h.2.2.1⟩

/-- **Escaped text is inert**: consumed in a text node, or inside a double-quoted attribute value, the escaped form of any
string leaves the tokenizer in the same state — it can only extend the text / the attribute value, never open a tag,
close the attribute or start a new one. -/
theorem C20_escape_preserves_state (s : List Char) :
    runTok .data (htmlEscape s) = .data ∧ runTok .attrDQ (htmlEscape s) = .attrDQ :=
  ⟨runTok_escape (.inl rfl) s, runTok_escape (.inr rfl) s⟩

/-- A value spliced in where the template text has left the tokenizer in a text node or a double-quoted attribute
value might as well not be there. -/
theorem runTok_splice {st : TState} {pre : List Char} (h : runTok st pre = .data ∨ runTok st pre = .attrDQ)
    (v post : List Char) : runTok st (pre ++ htmlEscape v ++ post) = runTok st (pre ++ post) := by
  rw [runTok_append, runTok_append, runTok_escape h, ← runTok_append]

/-- **The structure of a page does not depend on the request text spliced into it**: for any template text `pre` that
leaves the tokenizer in a text node or inside a double-quoted attribute value (the only contexts the templates use,
`C20_all_action_sites_safe`), and any remainder `post`, the tokenizer ends in the same state whatever string is
substituted — and in the state it reaches when nothing is substituted at all. Unbounded in `pre`, `post` and both texts. -/
theorem C20_page_structure_independent (pre post s₁ s₂ : List Char)
    (hctx : runTok .data pre = .data ∨ runTok .data pre = .attrDQ) :
    runTok .data (pre ++ htmlEscape s₁ ++ post) = runTok .data (pre ++ htmlEscape s₂ ++ post) ∧
    runTok .data (pre ++ htmlEscape s₁ ++ post) = runTok .data (pre ++ post) :=
  ⟨(runTok_splice hctx s₁ post).trans (runTok_splice hctx s₂ post).symm, runTok_splice hctx s₁ post⟩

def render : List (List Char × List Char) → List Char
  | [] => []
  | (t, v) :: r => t ++ htmlEscape v ++ render r

def skeletonOf : List (List Char × List Char) → List Char
  | [] => []
  | (t, _) :: r => t ++ skeletonOf r

def sitesSafe : TState → List (List Char × List Char) → Prop
  | _, [] => True
  | st, (t, _) :: r => (runTok st t = .data ∨ runTok st t = .attrDQ) ∧ sitesSafe (runTok st t) r

/-- Several substitutions on one page (the templates splice up to six values): by induction over the list of
(template text, request text) pieces, the final tokenizer state equals that of the template texts alone, provided each
splice point sits in a text node or a double-quoted attribute value. -/
theorem C20_many_substitutions_inert (ps : List (List Char × List Char)) (st : TState) (tail : List Char)
    (h : sitesSafe st ps) :
    runTok st (render ps ++ tail) = runTok st (skeletonOf ps ++ tail) := by
  induction ps generalizing st with
  | nil => rfl
  | cons p r ih =>
    obtain ⟨t, v⟩ := p
    obtain ⟨hs, hr⟩ := h
    rw [render, skeletonOf, List.append_assoc, runTok_splice hs, List.append_assoc, runTok_append, ih _ hr,
      ← runTok_append]

/-- All six reference patterns of `decodeRefs` begin with `&`. -/
theorem decodeRefs_plain {c : Char} (h : c ≠ '&') (r : List Char) : decodeRefs (c :: r) = c :: decodeRefs r := by
  rw [decodeRefs.eq_7] <;> exact fun _ e => absurd e h

/-- Decoding undoes the escaper character by character (NUL apart): row by row of the table, and trivially off it. -/
theorem decodeRefs_escChar (c : Char) (r : List Char) :
    decodeRefs (escChar c ++ r) = (if c = '\x00' then '�' else c) :: decodeRefs r := by
  by_cases hc : c ∈ specials
  · simp only [specials, List.mem_cons, List.not_mem_nil, or_false] at hc
    rcases hc with rfl | rfl | rfl | rfl | rfl | rfl | rfl <;> rfl
  · rw [escChar_plain hc, if_neg (ne_of_not_special hc)]
    exact decodeRefs_plain (ne_of_not_special hc) r

/-- Full strength (no hypothesis): decoding the escaped form gives the text with each NUL shown as U+FFFD — the only
character the escaper does not carry over, and a replacement the client does not choose. -/
theorem C20_escape_faithful_total (s : List Char) :
    decodeRefs (htmlEscape s) = s.map (fun c => if c = '\x00' then '�' else c) := by
  induction s with
  | nil => rfl
  | cons c t ih => exact (decodeRefs_escChar c _).trans (congrArg _ ih)

/-- **Escaping is faithful**: what a browser displays (or reads back as an attribute value) after decoding the character
references is exactly the request text — nothing is dropped, merged or reinterpreted, so one text cannot be made to
display as another. NUL is excluded: the escaper replaces it by U+FFFD (first row of `escChar`). -/
theorem C20_escape_faithful (s : List Char) (h : '\x00' ∉ s) : decodeRefs (htmlEscape s) = s := by
  rw [C20_escape_faithful_total]
  exact (List.map_congr_left fun c hc => if_neg fun e : c = '\x00' => h (e ▸ hc)).trans (List.map_id s)

/-- Tie (T1): every value-producing action of every template sso serves sits in a text node or inside a double-quoted
attribute value that is not a URL / script / style attribute; both template files import `html/template`. -/
theorem C20_all_action_sites_safe :
    (∀ a ∈ Sso.Generated.templateActions, a.2.2 = "text" ∨ a.2.2 ∈ ["attr-dq:value", "attr-dq:content", "attr-dq:class"]) ∧
    Sso.Generated.templateImports = ["html/template", "html/template"] ∧
    Sso.Generated.templateActions.length ≥ 20 := by decide

/-! ### Non-vacuity
`String.reduceToList` first: unpacking the string literals is most of what `decide` alone would spend here. -/
example : htmlEscape "<script>\"x\"&'+".toList = "&lt;script&gt;&#34;x&#34;&amp;&#39;&#43;".toList := by
  simp only [String.reduceToList]; decide
example : runTok .data "<b".toList = .other := by decide
example : sitesSafe .data [("Hi ".toList, "<i>".toList), (" and ".toList, "\" onclick=\"x".toList)] ∧
    runTok .data (render [("Hi ".toList, "<i>".toList), (" and ".toList, "\" onclick=\"x".toList)]) = .data := by
  simp only [String.reduceToList]
  refine ⟨⟨?_, ?_, trivial⟩, ?_⟩ <;> decide
example : decodeRefs (htmlEscape "<a href='x'>\"&+".toList) = "<a href='x'>\"&+".toList := by
  simp only [String.reduceToList]; decide

/-- Tie (T1): the handlers that put request-controlled text on a page or into JSON. -/
theorem C20_wiring :
    Sso.Generated.skel_proxy_ErrorPage =
      ["call:isXHR", "if{", "call:New", "call:XHRError", "return", "}", "call:getRemoteAddr", "call:WriteHeader", "call:ExecuteTemplate"] ∧
    Sso.Generated.skel_proxy_XHRError =
      ["call:getRemoteAddr", "call:Marshal", "if{", "call:WriteHeader", "return", "}", "call:Header", "call:Set", "call:WriteHeader", "call:Write"] ∧
    Sso.Generated.skel_auth_SignOutPage =
      ["call:Get", "call:LoadSession", "if{", "call:Redirect", "return", "}", "call:Get", "call:Get", "call:Parse", "if{", "call:WriteHeader", "}", "call:Data", "call:ExecuteTemplate", "return"] ∧
    Sso.Generated.skel_auth_SignInPage =
      ["call:WriteHeader", "call:TrimPrefix", "call:ResolveReference", "call:Query", "call:Get", "call:Parse", "call:Data", "call:Data", "call:String", "call:ExecuteTemplate"] := ⟨rfl, rfl, rfl, rfl⟩

/-- Tie (T1): no non-test file of either service imports `text/template` (which renders without escaping): every page is
rendered by `html/template`, whose contextual escaper is what the theorems above are about. -/
theorem C20_no_text_template : Sso.Generated.textTemplateImporters = [] := rfl

/-- Tie (T1): none of html/template's *trusted content* types (`template.HTML`, `JS`, `URL`, … — values written without
escaping) is used anywhere in the services' sources: every value a template receives is escaped for its context. -/
theorem C20_no_trusted_template_types : Sso.Generated.trustedTemplateTypes = [] := rfl

/-- Tie (T1): the authenticator's `ErrorResponse` has two branches only — JSON (marshalled) and the HTML template — and sets
the status after choosing. -/
theorem C20_skeleton_ErrorResponse : Sso.Generated.skel_auth_ErrorResponse =
    ["call:Get", "if{", "store:response.Error", "call:writeJSONResponse", "}", "else{", "call:StatusText", "call:WriteHeader", "call:ExecuteTemplate", "}"] := rfl

/-- Tie (T1): JSON bodies are what `encoding/json` produced, written as is. -/
theorem C20_skeleton_writeJSONResponse : Sso.Generated.skel_auth_writeJSONResponse =
    ["call:Header", "call:Set", "call:WriteHeader", "call:NewEncoder", "call:Encode", "if{", "call:Error", "call:WriteString", "}"] := rfl

end Sso.Html
