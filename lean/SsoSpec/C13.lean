import Generated.Facts
import SsoSpec.C04

/-!
# C13 — requests are handled under the policy and backend of the upstream their Host names
`routeHost` is `hostmux.Router.Route`; `matchesRe i` is the oracle "the i-th entry's regexp matches this Host".
-/
namespace Sso.Proxy

/-- An exact static match takes precedence over every regexp route, whatever the patterns match. -/
theorem C13_static_precedes_regexp (table : List RouteEntry) (m : Nat → Bool) (host : String)
    (hs : ∃ e ∈ table, e.isRegexp = false ∧ e.host = host) :
    ∃ i e, routeHost table m host = some i ∧ table[i]? = some e ∧ e.isRegexp = false ∧ e.host = host := by
  obtain ⟨e, he, hr, hh⟩ := hs
  obtain ⟨i, hi⟩ := List.getElem?_of_mem he
  have hmem : (i, e) ∈ ((List.range table.length).zip table).filter (fun p => !p.2.isRegexp && p.2.host = host) :=
    List.mem_filter.2 ⟨(List.mem_zip_range table (i, e)).2 hi, by simp [hr, hh]⟩
  unfold routeHost
  simp only
  cases hl : (((List.range table.length).zip table).filter (fun p => !p.2.isRegexp && p.2.host = host)).getLast? with
  | none => rw [List.getLast?_eq_none_iff.1 hl] at hmem; cases hmem
  | some p =>
    obtain ⟨hz, hq⟩ := List.mem_filter.1 (List.mem_of_getLast? hl)
    exact ⟨p.1, p.2, rfl, (List.mem_zip_range table p).1 hz, by simpa using hq⟩

/-- Without a static match, the first regexp route (in configuration order) whose pattern matches handles the request. -/
theorem C13_first_matching_regexp (table : List RouteEntry) (m : Nat → Bool) (host : String)
    (hs : ∀ e ∈ table, e.isRegexp = false → e.host ≠ host) (i : Nat) (h : routeHost table m host = some i) :
    ∃ e, table[i]? = some e ∧ e.isRegexp = true ∧ m i = true ∧
      ∀ j e', j < i → table[j]? = some e' → e'.isRegexp = true → m j = false := by
  unfold routeHost at h
  simp only at h
  have hnil : ((List.range table.length).zip table).filter (fun p => !p.2.isRegexp && p.2.host = host) = [] := by
    rw [List.filter_eq_nil_iff]
    intro p hp
    have := hs p.2 (List.of_mem_zip hp).2
    cases hr : p.2.isRegexp <;> simp_all
  rw [hnil] at h
  obtain ⟨p, hf, rfl⟩ := Option.map_eq_some_iff.1 h
  obtain ⟨hp, k, hk, hkp, hbefore⟩ := List.find?_eq_some_iff_getElem.1 hf
  obtain ⟨rfl, hpe⟩ := (List.getElem?_zip_range table k p).1 (hkp ▸ List.getElem?_eq_getElem hk)
  simp only [Bool.and_eq_true] at hp
  refine ⟨p.2, hpe, hp.1, hp.2, fun j e' hj hje hre => ?_⟩
  -- an earlier matching regexp entry would have been found first
  have hj' := (List.getElem?_zip_range table j (j, e')).2 ⟨rfl, hje⟩
  have := hbefore j hj
  rw [(List.getElem_eq_iff _).2 hj'] at this
  simpa [hre] using this

/-- **Routing is sound**: whatever the table and the host, the entry a request is handled under either names that host
exactly or is a regexp route whose pattern matches it — no request is ever handled under an upstream its Host does not
name. (The precedence theorems above say *which* such entry; this one is the unconditional safety half.) -/
theorem C13_route_sound (table : List RouteEntry) (m : Nat → Bool) (host : String) (i : Nat)
    (h : routeHost table m host = some i) :
    ∃ e, table[i]? = some e ∧ ((e.isRegexp = false ∧ e.host = host) ∨ (e.isRegexp = true ∧ m i = true)) := by
  unfold routeHost at h
  simp only at h
  split at h
  · next p hp =>
    cases h
    obtain ⟨hz, hq⟩ := List.mem_filter.1 (List.mem_of_getLast? hp)
    exact ⟨p.2, (List.mem_zip_range table p).1 hz, .inl (by simpa using hq)⟩
  · obtain ⟨p, hf, rfl⟩ := Option.map_eq_some_iff.1 h
    exact ⟨p.2, (List.mem_zip_range table p).1 (List.mem_of_find?_eq_some hf), .inr (by simpa using List.find?_some hf)⟩

example : routeHost [⟨false, "a"⟩, ⟨true, ""⟩, ⟨false, "a"⟩] (fun _ => true) "a" = some 2 ∧
    routeHost [⟨false, "a"⟩, ⟨true, ""⟩] (fun _ => true) "b" = some 1 := by decide

/-- A Host that matches no route reaches no handler of any upstream: the router answers 421. -/
theorem C13_no_match_none (table : List RouteEntry) (m : Nat → Bool) (host : String)
    (hs : ∀ e ∈ table, e.isRegexp = false → e.host ≠ host) (hr : ∀ i, m i = false) :
    routeHost table m host = none := by
  cases h : routeHost table m host with
  | none => rfl
  | some i =>
    obtain ⟨e, _, _, hm, _⟩ := C13_first_matching_regexp table m host hs i h
    simp [hr i] at hm

/-- A session obtained for one upstream host is never accepted on another (instance of C01). -/
theorem C13_cross_host_session_rejected (lower : Validators.Bytes → Validators.Bytes) (P : Policy) (now : Int) (r : ReqIn) (s : Sess) (a : Ans)
    (hh : s.host ≠ r.host) (hw : whitelisted P r = false) :
    ∀ id, (proxy lower P now r (.opens s) a).outcome ≠ .forward id :=
  C01_cross_host_session_rejected lower P now r s a hh hw

/-- … and a session issued under another provider slug is not accepted either: the slug gate uses the upstream's own slug. -/
theorem C13_other_provider_session_rejected (lower : Validators.Bytes → Validators.Bytes) (P : Policy) (now : Int) (r : ReqIn) (s : Sess) (a : Ans)
    (hh : s.slug ≠ P.slug) (hw : whitelisted P r = false) :
    ∀ id, (proxy lower P now r (.opens s) a).outcome ≠ .forward id :=
  (proxy_refuses hw (.inl hh)).1

def exTable : List RouteEntry := [⟨false, "app.x.io"⟩, ⟨true, ""⟩, ⟨false, "app.x.io"⟩, ⟨true, ""⟩]
example : routeHost exTable (fun _ => true) "app.x.io" = some 2 := by decide      -- later static registration wins; regexps ignored
example : routeHost exTable (fun i => i == 3) "other" = some 3 := by decide
example : routeHost exTable (fun _ => false) "APP.x.io" = none := by decide       -- exact bytes: no case folding

/-! ### one browser, several upstreams: the host binding along every history

A deployment serves several upstreams; each request is handled under the policy of the upstream its Host routes to. The
history below lets every step carry its own policy (any upstream, any rules, any provider slug) and lets the client present
any cookie of the chain at any step. -/

/-- a history whose steps are each handled under their own upstream's policy -/
def runM (lower : Validators.Bytes → Validators.Bytes) (w : World) : List (Policy × Step) → World × List HandlerOut
  | [] => (w, [])
  | (P, st) :: t =>
    let (w', o) := stepW lower P w st
    let (w'', os) := runM lower w' t
    (w'', o :: os)

/-- **A session obtained for one upstream host is never accepted on another — along every history.** Starting from a login
on host `A`, whatever sequence of requests follows (to any hosts, under any upstreams' policies, presenting any cookie of the
chain, with any authenticator answers): every session ever re-sealed is still bound to `A` (and to the same user and provider),
and every request that reaches a backend as an authenticated request was addressed to `A` and handled under a policy whose
provider issued the session. -/
theorem C13_session_never_accepted_elsewhere (lower : Validators.Bytes → Validators.Bytes) (w : World) (hw : WInv w)
    (sts : List (Policy × Step)) :
    WInv (runM lower w sts).1 ∧
    ∀ p ∈ sts.zip (runM lower w sts).2, ∀ id, p.2.outcome = .forward (some id) →
      p.1.2.req.host = w.root.host ∧ p.1.1.slug = w.root.slug := by
  induction sts generalizing w with
  | nil => exact ⟨hw, by simp [runM]⟩
  | cons pst t ih =>
    obtain ⟨P, st⟩ := pst
    have hst := stepW_sound lower P w st hw
    have ih' := ih _ hst.1
    refine ⟨ih'.1, fun p hp id hf => ?_⟩
    rcases List.mem_cons.1 hp with rfl | hp
    · exact ⟨(hst.2 id hf).1, (hst.2 id hf).2.1⟩
    · exact ih'.2 p hp id hf

-- the invariant holds at a login: nothing has been re-sealed yet
example (s : Sess) : WInv ⟨s, []⟩ := by intro x hx; cases hx

/-- in particular: a cookie of the chain presented at another host reaches no backend there -/
theorem C13_other_host_never_served (lower : Validators.Bytes → Validators.Bytes) (w : World) (hw : WInv w)
    (sts : List (Policy × Step)) :
    ∀ p ∈ sts.zip (runM lower w sts).2, p.1.2.req.host ≠ w.root.host → ∀ id, p.2.outcome ≠ .forward (some id) := by
  intro p hp hne id hf
  exact hne ((C13_session_never_accepted_elsewhere lower w hw sts).2 p hp id hf).1

/-- Tie (T1): `Router.Route` looks the Host up in the static map first, then ranges over the regexp routes in order. -/
theorem C13_skeleton_Route : Sso.Generated.skel_hostmux_Route =
    ["call:Lock", "defer:Unlock", "if{", "return", "}", "range{", "call:MatchString", "if{", "return", "}", "}", "return"] := rfl

/-- Tie (T1): `proxy.New` builds, **inside the loop over upstreams**, one provider (`newProvider`, hence one single-flight
group), one reverse proxy and one validator list per upstream, installs them with the `Set…` options and registers the
handler under that upstream's route — nothing is shared between upstreams. -/
theorem C13_skeleton_New : Sso.Generated.skel_proxy_New =
    ["if{", "call:NewRequestSigner", "if{", "return", "}", "call:SetRequestSigner", "call:append", "}", "call:NewRouter", "range{", "if{", "store:upstreamConfigs.DefaultConfig.ProviderSlug", "}", "call:newProvider", "if{", "return", "}", "call:NewUpstreamReverseProxy", "if{", "return", "}", "call:len", "if{", "call:NewEmailAddressValidator", "call:append", "}", "call:len", "if{", "call:NewEmailDomainValidator", "call:append", "}", "call:len", "if{", "call:NewEmailGroupValidator", "call:append", "}", "call:SetProvider", "call:SetCookieStore", "call:SetUpstreamConfig", "call:SetProxyHandler", "call:SetStatsdClient", "call:SetValidators", "call:append", "call:NewOAuthProxy", "if{", "return", "}", "typeswitch{", "case{", "call:Handler", "call:HandleStatic", "}", "case{", "call:Handler", "call:HandleRegexp", "}", "case{", "call:Errorf", "return", "}", "}", "}", "call:setHealthCheck", "return"] := rfl

/-- Tie (T1): `SetValidators` *replaces* the proxy's validator list. -/
theorem C13_skeleton_SetValidators : Sso.Generated.skel_proxy_SetValidators =
    ["func{", "store:op.Validators", "return", "}", "return"] := rfl

/-- Tie (T1): helpers, stores and second callers on this property's path (hostmux_HandleStatic, hostmux_HandleRegexp, hostmux_ServeHTTP, cfg_rewriteRoute, cfg_simpleRoute, proxy_StaticDirectorFunc, proxy_RewriteDirectorFunc, proxy_singleJoiningSlash). -/
theorem C13_wiring2 :
    Sso.Generated.skel_hostmux_HandleStatic =
      ["call:Lock", "store:r.StaticRoutes[]", "call:Unlock"] ∧
    Sso.Generated.skel_hostmux_HandleRegexp =
      ["call:Lock", "call:append", "store:r.RegexpRoutes", "call:Unlock"] ∧
    Sso.Generated.skel_hostmux_ServeHTTP =
      ["call:Route", "call:Handler", "call:ServeHTTP"] ∧
    Sso.Generated.skel_cfg_rewriteRoute =
      ["call:Compile", "if{", "return", "}", "return"] ∧
    Sso.Generated.skel_cfg_simpleRoute =
      ["call:urlParse", "if{", "return", "}", "call:urlParse", "if{", "return", "}", "return"] ∧
    Sso.Generated.skel_proxy_StaticDirectorFunc =
      ["call:DirectorFunc", "return"] ∧
    Sso.Generated.skel_proxy_RewriteDirectorFunc =
      ["func{", "call:ReplaceAllString", "call:urlParse", "if{", "store:req.URL", "return", "}", "call:?", "}", "return"] ∧
    Sso.Generated.skel_proxy_singleJoiningSlash =
      ["call:HasSuffix", "call:HasPrefix", "switch{", "case aslash&&bslash{", "return", "}", "case !aslash&&!bslash{", "return", "}", "}", "return"] := ⟨rfl, rfl, rfl, rfl, rfl, rfl, rfl, rfl⟩

/-- Tie (T1): the decoder tags of the upstream file's structs (`internal/proxy/proxy_config.go`): the names under which the environment and the files reach each
setting this property depends on. -/
theorem C13_tags_proxyUpstreamTags : Sso.Generated.proxyUpstreamTags =
    ["ServiceConfig.Service yaml:\"service\"", "ServiceConfig.ClusterConfigs yaml:\",inline\"", "SimpleRoute.FromURL ", "SimpleRoute.ToURL ", "RewriteRoute.FromRegex ", "RewriteRoute.ToTemplate ", "UpstreamConfig.Service ", "UpstreamConfig.RouteConfig yaml:\",inline\"", "UpstreamConfig.ExtraRoutes yaml:\"extra_routes\"", "UpstreamConfig.Route ", "UpstreamConfig.SkipAuthCompiledRegex ", "UpstreamConfig.AllowedGroups ", "UpstreamConfig.AllowedEmailDomains ", "UpstreamConfig.AllowedEmailAddresses ", "UpstreamConfig.TLSSkipVerify ", "UpstreamConfig.SkipAuthPreflight ", "UpstreamConfig.PassAccessToken ", "UpstreamConfig.PreserveHost ", "UpstreamConfig.HMACAuth ", "UpstreamConfig.Timeout ", "UpstreamConfig.ResetDeadline ", "UpstreamConfig.FlushInterval ", "UpstreamConfig.HeaderOverrides ", "UpstreamConfig.InjectRequestHeaders ", "UpstreamConfig.SkipRequestSigning ", "UpstreamConfig.CookieName ", "UpstreamConfig.ProviderSlug ", "RouteConfig.From yaml:\"from\"", "RouteConfig.To yaml:\"to\"", "RouteConfig.Type yaml:\"type\"", "RouteConfig.Options yaml:\"options\"", "OptionsConfig.HeaderOverrides yaml:\"header_overrides\"", "OptionsConfig.InjectRequestHeaders yaml:\"inject_request_headers\"", "OptionsConfig.SkipAuthRegex yaml:\"skip_auth_regex\"", "OptionsConfig.AllowedGroups yaml:\"allowed_groups\"", "OptionsConfig.AllowedEmailDomains yaml:\"allowed_email_domains\"", "OptionsConfig.AllowedEmailAddresses yaml:\"allowed_email_addresses\"", "OptionsConfig.TLSSkipVerify yaml:\"tls_skip_verify\"", "OptionsConfig.SkipAuthPreflight yaml:\"skip_auth_preflight\"", "OptionsConfig.PassAccessToken yaml:\"pass_access_token\"", "OptionsConfig.PreserveHost yaml:\"preserve_host\"", "OptionsConfig.Timeout yaml:\"timeout\"", "OptionsConfig.ResetDeadline yaml:\"reset_deadline\"", "OptionsConfig.FlushInterval yaml:\"flush_interval\"", "OptionsConfig.SkipRequestSigning yaml:\"skip_request_signing\"", "OptionsConfig.ProviderSlug yaml:\"provider_slug\"", "OptionsConfig.CookieName ", "ErrParsingConfig.Message ", "ErrParsingConfig.Err "] := rfl

/-- Tie (T1): the constructors and option functions that hand configured values to the components this property
speaks about (proxy_SetUpstreamConfig, proxy_SetProvider). -/
theorem C13_wiring3 :
    Sso.Generated.skel_proxy_SetUpstreamConfig =
      ["func{", "store:op.upstreamConfig", "return", "}", "return"] ∧
    Sso.Generated.skel_proxy_SetProvider =
      ["func{", "store:op.provider", "return", "}", "return"] := ⟨rfl, rfl⟩

end Sso.Proxy
