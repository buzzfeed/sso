import SsoSpec.Lemmas.Breaker
import Generated.Facts

/-!
# C15 — the circuit breaker follows its three-state machine under every interleaving

Every theorem quantifies over *all* rule functions `P.trip`, `P.reset`, `P.backoff`, any
`halfOpenMax ≥ 0` (the constructor forces ≥ 1) and, where it mentions `Reachable`, over all finite event lists, i.e. all
interleavings of any number of overlapping `Call`s at critical-section granularity.
-/
namespace Sso.Breaker

/-- While closed (after the clock-driven step) every call is let through. -/
theorem C15_closed_admits_all (P : Params) (b : B) (h : (cs b).1.st = .closed) :
    ∃ b' hk, beforeRequest P b = (b', .admitted (cs b).1.gen, hk) :=
  ⟨_, _, beforeRequest_admit (by simp [Refuses, h])⟩

/-- Open and the back-off deadline not yet passed: the call is rejected, `f` is not run
(no in-flight entry is created) and nothing changes. -/
theorem C15_open_rejects_until_deadline (P : Params) (g : G) (i : Nat)
    (ho : g.b.st = .opn) (hd : g.b.now ≤ g.b.expires) (hi : lookupGen g.inflight i = none) :
    step P g (.start i) = (g, .rejected g.b.gen []) := by
  have hc : cs g.b = (g.b, []) := cs_of_not_expired (by omega)
  have hr : beforeRequest P g.b = (g.b, .rejected g.b.gen, []) := by
    rw [beforeRequest_reject (.inl (by rw [hc]; exact ho)), hc]
  simp [step, hi, hr]

/-- Open and the deadline passed: the next critical section first moves to half-open with a new generation. -/
theorem C15_open_expires_to_halfopen (b : B) (ho : b.st = .opn) (hd : b.now > b.expires) :
    (cs b).1.st = .halfOpen ∧ (cs b).1.gen = b.gen + 1 ∧ (cs b).2 = [.stateChange .opn .halfOpen] := by
  rw [cs_of_expired ho hd]; exact ⟨rfl, rfl, rfl⟩

/-- Half-open admits iff fewer than `halfOpenMax` calls are in flight. -/
theorem C15_halfopen_admits_iff (P : Params) (b : B) (h : (cs b).1.st = .halfOpen) :
    (∃ b' n hk, beforeRequest P b = (b', .admitted n, hk)) ↔ (cs b).1.cnt.cur < P.halfOpenMax := by
  by_cases hc : (cs b).1.cnt.cur ≥ P.halfOpenMax
  · rw [beforeRequest_reject (.inr ⟨h, hc⟩)]; simp; omega
  · rw [beforeRequest_admit (by simp [Refuses, h, hc])]; simp; omega

/-- In every reachable half-open state, at most `halfOpenMax` calls admitted in the current
half-open generation are running. -/
theorem C15_halfopen_cap (P : Params) (hmax : 0 ≤ P.halfOpenMax) (g : G) (hr : Reachable P g)
    (hh : g.b.st = .halfOpen) : (countGen g.inflight g.b.gen : Int) ≤ P.halfOpenMax :=
  (reachable_inv P hmax g hr).half_cap hh

/-- The in-flight counter equals the number of calls in flight; in particular it is never negative. -/
theorem C15_cur_eq_inflight (P : Params) (hmax : 0 ≤ P.halfOpenMax) (g : G) (hr : Reachable P g) :
    g.b.cnt.cur = g.inflight.length ∧ 0 ≤ g.b.cnt.cur := by
  have := (reachable_inv P hmax g hr).cur_len
  exact ⟨this, by omega⟩

/-- Outcomes of calls admitted before the most recent state change never matter: a completion with
a stale generation has the same effect whether it succeeded or failed, namely the decrement and the
clock-driven step only. -/
theorem C15_stale_outcome_irrelevant (P : Params) (b : B) (n : Int) (ok : Bool)
    (hs : n ≠ (cs (decr b)).1.gen) :
    afterRequest P b ok n = cs (decr b) := by
  rw [afterRequest_eq, afterCore_stale hs, List.append_nil]

/-- Closed → Open happens exactly on a current-generation failure for which the trip rule holds of
the counts after the failure was recorded; counters cleared, generation bumped, new back-off.
(`b1` is the state after the in-flight decrement and the clock-driven step.) -/
theorem C15_trips_iff_rule (P : Params) (b : B) (n : Int) (ok : Bool)
    (hc : (cs (decr b)).1.st = .closed) :
    let b1 := (cs (decr b)).1
    let c1 : Counts := { cur := b1.cnt.cur, succ := 0, fail := b1.cnt.fail + 1 }
    ((afterRequest P b ok n).1.st = .opn ↔ (n = b1.gen ∧ ok = false ∧ P.trip c1 = true)) ∧
    ((afterRequest P b ok n).1.st = .opn →
        (afterRequest P b ok n).1.gen = b1.gen + 1 ∧
        (afterRequest P b ok n).1.cnt = { cur := b1.cnt.cur, succ := 0, fail := 0 } ∧
        (afterRequest P b ok n).1.expires = b1.now + P.backoff { cur := b1.cnt.cur, succ := 0, fail := 0 }) := by
  intro b1 c1
  rw [afterRequest_eq]
  by_cases hg : n = b1.gen
  · subst hg
    cases ok
    · by_cases ht : P.trip c1 = true
      · rw [afterCore_failure_trip hc ht]; simp [ht, b1]
      · rw [afterCore_failure_count hc ht]; simp [hc, ht]
    · rw [afterCore_success_count (by simp [hc])]; simp [hc]
  · rw [afterCore_stale hg]; simp [hc, hg, b1]

/-- HalfOpen → Closed happens exactly on a current-generation success for which the reset rule holds;
counters cleared, generation bumped. -/
theorem C15_closes_iff_reset (P : Params) (b : B) (n : Int) (ok : Bool)
    (hc : (cs (decr b)).1.st = .halfOpen) :
    let b1 := (cs (decr b)).1
    let c1 : Counts := { cur := b1.cnt.cur, succ := b1.cnt.succ + 1, fail := 0 }
    ((afterRequest P b ok n).1.st = .closed ↔ (n = b1.gen ∧ ok = true ∧ P.reset c1 = true)) ∧
    ((afterRequest P b ok n).1.st = .closed →
        (afterRequest P b ok n).1.gen = b1.gen + 1 ∧
        (afterRequest P b ok n).1.cnt = { cur := b1.cnt.cur, succ := 0, fail := 0 }) := by
  intro b1 c1
  rw [afterRequest_eq]
  by_cases hg : n = b1.gen
  · subst hg
    cases ok
    · rw [afterCore_failure_halfOpen hc]; simp
    · by_cases hr : P.reset c1 = true
      · rw [afterCore_success_reset hc hr]; simp [hr, b1]
      · rw [afterCore_success_count fun h => hr h.2]; simp [hc, hr, b1]
  · rw [afterCore_stale hg]; simp [hc, hg, b1]

/-- A back-off lasts what the back-off rule says, counted from the moment it is set: the stored deadline and the one announced
to the hook are both `now + duration`, to the tick (no rounding). -/
theorem C15_backoff_deadline_is_now_plus_duration (P : Params) (b : B) :
    (setBackoff P b).1.expires = b.now + P.backoff b.cnt ∧
    (setBackoff P b).2 = [.backoff (P.backoff b.cnt) (b.now + P.backoff b.cnt)] ∧
    (setBackoff P b).1.st = b.st ∧ (setBackoff P b).1.gen = b.gen ∧ (setBackoff P b).1.cnt = b.cnt := by
  simp [setBackoff]

/-- while open, no success is on the books -/
def SuccInv (b : B) : Prop := b.st = .opn → b.cnt.succ = 0

theorem cs_succ {b : B} (h : SuccInv b) :
    SuccInv (cs b).1 ∧ ((cs b).1.gen ≠ b.gen → (cs b).1.cnt.succ = 0) := by
  by_cases hc : b.st = .opn ∧ b.now > b.expires
  · rw [cs_of_expired hc.1 hc.2]; exact ⟨nofun, fun _ => h hc.1⟩
  · rw [cs_of_not_expired hc]; exact ⟨h, fun hne => absurd rfl hne⟩

/-- A completion that is stale whenever the breaker is open keeps `SuccInv` and, if it changes the state, leaves no success on
the books: a failure never does, a success either closes (counts cleared) or is counted without leaving the state. -/
theorem afterCore_succ {b : B} {g : Int} (P : Params) (ok : Bool) (h : SuccInv b) (hopen : b.st = .opn → g ≠ b.gen) :
    SuccInv (afterCore P b ok g).1 ∧
    ((afterCore P b ok g).1.gen ≠ b.gen → (afterCore P b ok g).1.cnt.succ = 0) := by
  by_cases hg : g = b.gen
  · subst hg
    cases ok
    · have h0 : (afterCore P b false b.gen).1.cnt.succ = 0 := by
        cases hs : b.st
        · by_cases ht : P.trip ⟨b.cnt.cur, 0, b.cnt.fail + 1⟩ = true
          · rw [afterCore_failure_trip hs ht]
          · rw [afterCore_failure_count hs ht]
        · rw [afterCore_failure_halfOpen hs]
        · rw [afterCore_failure_open hs]
      exact ⟨fun _ => h0, fun _ => h0⟩
    · by_cases hr : b.st = .halfOpen ∧ P.reset ⟨b.cnt.cur, b.cnt.succ + 1, 0⟩ = true
      · rw [afterCore_success_reset hr.1 hr.2]; exact ⟨nofun, fun _ => rfl⟩
      · rw [afterCore_success_count hr]; exact ⟨fun ho => absurd rfl (hopen ho), fun hne => absurd rfl hne⟩
  · rw [afterCore_stale hg]; exact ⟨h, fun hne => absurd rfl hne⟩

/-- **The success streak is per state.** For a completion whose call was admitted in a generation that exists (`g ≤ b.gen`) and —
while the breaker is open — not in the open period's own generation (both hold in every reachable state: `Inv.gens_le`,
`Inv.opn_none`), the step keeps "open ⇒ no successes counted", and whenever it changes the state (trip, re-open, close, or the
clock-driven open → half-open step it performs first) no success counted before the change is left afterwards: "closes exactly
when the reset rule holds for consecutive successes" speaks about successes *of the current half-open period*. -/
theorem C15_state_change_clears_success_streak (P : Params) (b : B) (ok : Bool) (g : Int) (h : SuccInv b)
    (hle : g ≤ b.gen) (hopen : b.st = .opn → g ≠ b.gen) :
    SuccInv (afterRequest P b ok g).1 ∧
    ((afterRequest P b ok g).1.gen ≠ b.gen → (afterRequest P b ok g).1.cnt.succ = 0) := by
  rw [afterRequest_eq]
  by_cases hc : (decr b).st = .opn ∧ (decr b).now > (decr b).expires
  · -- the clock-driven step opens a new generation, so the completion is stale
    rw [cs_of_expired hc.1 hc.2, afterCore_stale (by show g ≠ b.gen + 1; omega)]
    exact ⟨nofun, fun _ => h hc.1⟩
  · rw [cs_of_not_expired hc]; exact afterCore_succ P ok h hopen

/-- … and admissions (which may perform the open → half-open step) never create a success either -/
theorem C15_admission_keeps_success_streak_clear (P : Params) (b : B) (h : SuccInv b) :
    SuccInv (beforeRequest P b).1 ∧ ((beforeRequest P b).1.gen ≠ b.gen → (beforeRequest P b).1.cnt.succ = 0) := by
  by_cases hr : Refuses P (cs b).1
  · rw [beforeRequest_reject hr]; exact cs_succ h
  · rw [beforeRequest_admit hr]; exact cs_succ h

example : SuccInv B.init := by intro h; cases h

/-- Any current-generation failure while half-open re-opens with a new back-off computed from the
counts *including* this failure (so the default exponential back-off grows). -/
theorem C15_halfopen_failure_reopens (P : Params) (b : B) (n : Int)
    (hc : (cs (decr b)).1.st = .halfOpen) (hg : n = (cs (decr b)).1.gen) :
    let b1 := (cs (decr b)).1
    let c1 : Counts := { b1.cnt with fail := b1.cnt.fail + 1, succ := 0 }
    (afterRequest P b false n).1.st = .opn ∧
    (afterRequest P b false n).1.gen = b1.gen + 1 ∧
    (afterRequest P b false n).1.cnt = c1 ∧
    (afterRequest P b false n).1.expires = b1.now + P.backoff c1 := by
  intro b1 c1
  subst hg
  rw [afterRequest_eq, afterCore_failure_halfOpen hc]; exact ⟨rfl, rfl, rfl, rfl⟩

/-- No in-flight call carries the generation of an Open period … -/
theorem C15_no_inflight_of_open_gen (P : Params) (hmax : 0 ≤ P.halfOpenMax) (g : G) (hr : Reachable P g)
    (ho : g.b.st = .opn) : ∀ p ∈ g.inflight, p.2 ≠ g.b.gen :=
  (reachable_inv P hmax g hr).opn_none ho

/-- … hence the `case StateOpen` arm of `onFailure` is unreachable: whenever a completion's
generation is current, the state after the clock-driven step is not Open. -/
theorem C15_open_arm_unreachable (P : Params) (hmax : 0 ≤ P.halfOpenMax) (g : G) (hr : Reachable P g)
    (i : Nat) (n : Int) (hm : (i, n) ∈ g.inflight) (hg : n = (cs (decr g.b)).1.gen) :
    (cs (decr g.b)).1.st ≠ .opn := by
  intro ho
  by_cases hc : (decr g.b).st = .opn ∧ (decr g.b).now > (decr g.b).expires
  · rw [cs_of_expired hc.1 hc.2] at ho; cases ho
  · rw [cs_of_not_expired hc] at ho hg
    exact C15_no_inflight_of_open_gen P hmax g hr ho (i, n) hm hg

/-- The generation counts state changes, and every `OnStateChange(prev,to)` has `prev ≠ to`. -/
theorem C15_gen_counts_changes (P : Params) (g : G) (es : List Ev) :
    (run P g es).1.b.gen = g.b.gen + ((run P g es).2.map (fun o => nChanges (hooksOf o))).sum ∧
    ∀ o ∈ (run P g es).2, hooksProper (hooksOf o) := by
  induction es generalizing g with
  | nil => simp [run]
  | cons e es ih =>
    obtain ⟨hg, hp⟩ := step_hooks P g e
    obtain ⟨ihg, ihp⟩ := ih (step P g e).1
    simp only [run]
    refine ⟨?_, List.forall_mem_cons.2 ⟨hp, ihp⟩⟩
    simp only [List.map_cons, List.sum_cons]
    rw [ihg, hg]; omega

/-! ### Tie to the source (T1): the critical-section structure the LTS assumes is the code's

`Generated.skel_*` is re-extracted from `internal/auth/circuit/breaker.go` on every run: control tokens
and call names in source order.  `Call` = beforeRequest; (rejected → return) ; `f()` outside any lock ;
afterRequest.  Both helpers are `Lock; defer Unlock` around everything else, `afterRequest` decrements
*before* `currentState` and compares generations *after* it; the transitions call
`setState`/`clear`/`setBackoff` in the order the model applies them. -/

theorem C15_skeleton_Call : Generated.skel_breaker_Call =
    ["call:beforeRequest", "if{", "return", "}", "call:f", "call:afterRequest", "return"] := rfl

theorem C15_skeleton_beforeRequest : Generated.skel_breaker_beforeRequest =
    ["call:Lock", "defer:Unlock", "call:currentState", "switch{", "case StateOpen{", "return", "}",
     "case StateHalfOpen{", "if{", "return", "}", "}", "}", "call:onRequest", "return"] := rfl

theorem C15_skeleton_afterRequest : Generated.skel_breaker_afterRequest =
    ["call:Lock", "defer:Unlock", "call:afterRequest", "call:currentState", "if{", "return", "}",
     "if{", "call:onSuccess", "return", "}", "call:onFailure"] := rfl

theorem C15_skeleton_transitions :
    Generated.skel_breaker_onSuccess =
      ["call:onSuccess", "switch{", "case StateHalfOpen{", "call:shouldResetFunc", "if{", "call:setState", "call:clear", "}", "}", "}"] ∧
    Generated.skel_breaker_onFailure =
      ["call:onFailure", "switch{", "case StateClosed{", "call:shouldTripFunc", "if{", "call:setState", "call:clear", "call:setBackoff", "}", "}",
       "case StateOpen{", "call:setBackoff", "}", "case StateHalfOpen{", "call:setState", "call:setBackoff", "}", "}"] ∧
    Generated.skel_breaker_currentState =
      ["switch{", "case StateOpen{", "call:Now", "call:After", "if{", "call:setState", "}", "}", "}", "return"] ∧
    Generated.skel_breaker_setState =
      ["if{", "return", "}", "call:newGeneration", "store:b.state", "if{", "call:onStateChange", "}"] ∧
    Generated.skel_breaker_setBackoff =
      ["call:backoffDurationFunc", "call:Now", "call:Add", "store:b.backoffExpires", "if{", "call:onBackoff", "}"] := ⟨rfl, rfl, rfl, rfl, rfl⟩

/-! ### Non-vacuity: concrete runs meeting the hypotheses above -/

def exP : Params := { trip := fun c => c.fail ≥ 2, reset := fun c => c.succ ≥ 1, backoff := fun _ => 10, halfOpenMax := 1 }

/-- Two overlapping calls fail → open; tick past the deadline → half-open; a stale success is
ignored; a probe succeeds → closed. -/
def exRun : List Ev :=
  [.start 0, .start 1, .start 2, .complete 0 false, .complete 1 false, .tick 11, .start 3,
   .complete 2 true, .start 4, .start 5, .complete 4 true]

example : (run exP G.init exRun).2 =
    [.admitted 0 [], .admitted 0 [], .admitted 0 [], .completed [],
     .completed [.stateChange .closed .opn, .backoff 10 10], .ticked,
     .rejected 2 [.stateChange .opn .halfOpen],   -- call 2 (admitted while closed) still counts against the cap
     .completed [],                                -- stale success: ignored
     .admitted 2 [], .rejected 2 [],
     .completed [.stateChange .halfOpen .closed]] := by decide

example : Reachable exP (runState exP G.init exRun) := ⟨exRun, rfl⟩
example : (runState exP G.init (exRun.take 5)).b.st = .opn := by decide
example : (runState exP G.init (exRun.take 7)).b.st = .halfOpen := by decide

/-- Tie (T1): the breaker's *callers* — every request to the directory (Google Admin, Cognito) and to the identity provider's
endpoints is wrapped in its own `cb.Call`, one per request (per page of a paginated listing), so the state machine of this
file is what stands between sso-auth and a failing service. -/
theorem C15_wiring_callers :
    Sso.Generated.skel_gadmin_listMemberships =
      ["for{", "call:Now", "call:List", "call:MaxResults", "if{", "call:PageToken", "}", "func{", "call:Do", "return", "}", "call:Call", "if{", "typeswitch{", "case{", "switch{", "case 400{", "call:Error", "if{", "}", "}", "case 404{", "}", "case 429{", "}", "case 503{", "}", "}", "}", "case{", "}", "case{", "}", "}", "return", "}", "range{", "switch{", "case \"USER\"{", "call:append", "}", "case \"GROUP\"{", "if{", "continue", "}", "call:listMemberships", "if{", "return", "}", "call:append", "}", "default{", "call:Errorf", "continue", "}", "}", "}", "if{", "break", "}", "}", "return"] ∧
    Sso.Generated.skel_gadmin_CheckMemberships =
      ["range{", "call:Now", "call:HasMember", "func{", "call:Do", "return", "}", "call:Call", "if{", "typeswitch{", "case{", "switch{", "case 400{", "call:Error", "if{", "}", "}", "case 404{", "continue", "}", "case 429{", "}", "case 503{", "}", "}", "}", "case{", "}", "case{", "}", "}", "return", "}", "if{", "call:append", "}", "}", "return"] ∧
    Sso.Generated.skel_cadmin_ListMemberships =
      ["for{", "call:Now", "call:ListUsersInGroupRequest", "if{", "call:SetNextToken", "}", "func{", "call:Send", "return", "}", "call:Call", "if{", "typeswitch{", "case{", "call:Code", "switch{", "case cognitoidentityprovider.ErrCodeTooManyRequestsException{", "}", "case cognitoidentityprovider.ErrCodeInternalErrorException{", "}", "}", "}", "case{", "}", "case{", "}", "}", "return", "}", "range{", "call:append", "}", "if{", "break", "}", "}", "return"] ∧
    Sso.Generated.skel_cadmin_CheckMemberships =
      ["for{", "call:Now", "call:AdminListGroupsForUserRequest", "if{", "call:SetNextToken", "}", "func{", "call:Send", "return", "}", "call:Call", "if{", "typeswitch{", "case{", "call:Code", "switch{", "case cognitoidentityprovider.ErrCodeTooManyRequestsException{", "}", "case cognitoidentityprovider.ErrCodeInternalErrorException{", "}", "}", "}", "case{", "}", "case{", "}", "}", "return", "}", "range{", "call:append", "}", "if{", "break", "}", "}", "return"] ∧
    Sso.Generated.skel_google_googleRequest =
      ["call:Now", "switch{", "case \"POST\"{", "call:Encode", "call:NewBufferString", "}", "case \"GET\"{", "call:Parse", "call:Encode", "store:u.RawQuery", "call:String", "}", "default{", "return", "}", "}", "call:NewRequest", "if{", "return", "}", "call:Set", "call:Do", "if{", "return", "}", "call:ReadAll", "call:Close", "if{", "return", "}", "if{", "switch{", "case 400{", "call:Unmarshal", "if{", "return", "}", "return", "}", "case 429{", "return", "}", "default{", "return", "}", "}", "}", "if{", "call:Unmarshal", "if{", "return", "}", "}", "return"] ∧
    Sso.Generated.skel_okta_oktaRequest =
      ["call:Now", "switch{", "case \"POST\"{", "call:Encode", "call:NewBufferString", "}", "case \"GET\"{", "call:Parse", "call:Encode", "store:u.RawQuery", "call:String", "}", "default{", "return", "}", "}", "call:NewRequest", "if{", "return", "}", "if{", "store:req.Header", "}", "call:Set", "call:Do", "if{", "return", "}", "call:ReadAll", "call:Close", "if{", "return", "}", "if{", "switch{", "case 400{", "call:Unmarshal", "call:ToLower", "call:Contains", "if{", "return", "}", "return", "}", "case 429{", "return", "}", "default{", "return", "}", "}", "}", "if{", "call:Unmarshal", "if{", "return", "}", "}", "return"] := ⟨rfl, rfl, rfl, rfl, rfl, rfl⟩

end Sso.Breaker
