import SsoSpec.Lemmas.Proxy
import Generated.Facts

/-!
# C01 — complete mediation

`proxy`, `authOnly` are transliterations of `OAuthProxy.Proxy` / `AuthenticateOnly`; `c : CookieIn` is what
`LoadSession` made of the request's cookie under the sealing model of C02 (`opens s` only for a value sealed
under the proxy's secret). All statements hold for every `lower`, policy, time, request and authenticator answers.
-/
namespace Sso.Proxy
open Sso.Validators

/-- **Complete mediation.** The upstream is reached only for a whitelisted request, or for a request whose cookie
opens under the proxy's secret to a session of the configured provider, bound to exactly this Host, within its
lifetime, that passed the refresh/revalidation that was due (or the bounded outage grace of C05), and whose
e-mail passes every configured address/domain rule on this request. -/
theorem C01_forward_sound (lower : Bytes → Bytes) (P : Policy) (now : Int) (r : ReqIn) (c : CookieIn) (a : Ans)
    (id : Option Identity) (h : (proxy lower P now r c a).outcome = .forward id) :
    (whitelisted P r = true ∧ id = none) ∨
    (whitelisted P r = false ∧ ∃ s, c = .opens s ∧ s.slug = P.slug ∧ s.host = r.host ∧ exp s.lifetime now = false ∧
      dueChecksPassed P now s a ∧
      ∃ s', sameIdentity s s' ∧ id = some (identityOf P s') ∧ requestAdmits lower P.rules s'.email = true) := by
  rw [proxy_outcome] at h
  split at h
  · cases h; exact .inl ⟨‹_›, rfl⟩
  refine .inr ⟨by simpa using ‹¬ whitelisted P r = true›, ?_⟩
  split at h
  · next id' hres =>
    cases h
    obtain ⟨s, hc, h1, h2, h3, h4, s', h5, rfl, h7⟩ := authenticate_ok lower P now r.host c a id' hres
    exact ⟨s, hc, h1, h2, h3, h4, s', h5, rfl, h7⟩
  · exact absurd h (errOutcome_ne_forward r _ id)

/-- the authenticated case of `C01_forward_sound`, as the history theorems use it -/
theorem forward_authenticated {lower : Bytes → Bytes} {P : Policy} {now : Int} {r : ReqIn} {c : CookieIn} {a : Ans} {id : Identity}
    (h : (proxy lower P now r c a).outcome = .forward (some id)) :
    ∃ s, c = .opens s ∧ s.slug = P.slug ∧ s.host = r.host ∧ exp s.lifetime now = false ∧ dueChecksPassed P now s a := by
  rcases C01_forward_sound lower P now r c a _ h with ⟨_, h⟩ | ⟨_, s, hc, h1, h2, h3, h4, _⟩
  · cases h
  · exact ⟨s, hc, h1, h2, h3, h4⟩

/-- `/oauth2/auth` answers 202 exactly in the session case, 401 otherwise. -/
theorem C01_authOnly_202_iff (lower : Bytes → Bytes) (P : Policy) (now : Int) (r : ReqIn) (c : CookieIn) (a : Ans) :
    ((authOnly lower P now r c a).outcome = .accepted ↔ ∃ id, (authenticate lower P now r.host c a).res = .ok id) ∧
    ((authOnly lower P now r c a).outcome = .accepted ∨ (authOnly lower P now r c a).outcome = .unauthorized) := by
  unfold authOnly
  generalize (authenticate lower P now r.host c a) = o
  rcases o with ⟨res, w, cs, b⟩
  cases res <;> simp

/-- No (or an unreadable) cookie on a non-whitelisted request: sign-in redirect (or 401 JSON for XHR), never the upstream,
no call to the authenticator, cookie cleared. -/
theorem C01_no_session_no_upstream (lower : Bytes → Bytes) (P : Policy) (now : Int) (r : ReqIn) (c : CookieIn) (a : Ans)
    (hc : c = .absent ∨ c = .junk) (hw : whitelisted P r = false) :
    ((proxy lower P now r c a).outcome = .startOAuth ∨ (proxy lower P now r c a).outcome = .xhr401) ∧
    (proxy lower P now r c a).calls = [] ∧ (proxy lower P now r c a).writes = [.clear] ∧
    (authOnly lower P now r c a).outcome = .unauthorized := by
  rcases hc with rfl | rfl <;> simp [proxy, authOnly, authenticate_absent, authenticate_junk, hw, errOutcome]

/-- Every refusal clears the session cookie (the last cookie write is a clear), whatever was saved before. -/
theorem C01_refused_clears (lower : Bytes → Bytes) (P : Policy) (now : Int) (host : String) (c : CookieIn) (a : Ans)
    (e : AuthErr) (h : (authenticate lower P now host c a).res = .error e) :
    (authenticate lower P now host c a).writes.getLast? = some .clear := by
  rcases c with _ | _ | s
  · rw [authenticate_absent]; rfl
  · rw [authenticate_junk]; rfl
  rcases authenticate_opens lower P now host s a rfl with ⟨_, _, hw⟩ | ⟨s', _, _, _, _, hres, hw⟩ <;> rw [hw]
  · rfl
  · rw [hres] at h
    split at h <;> simp_all

/-- The whitelist decision reads only the method and the path-match oracle — never cookies, query or headers. -/
theorem C01_whitelist_reads_path_only (P : Policy) (r₁ r₂ : ReqIn)
    (hm : r₁.method = r₂.method) (hp : r₁.whitelistedPath = r₂.whitelistedPath) : whitelisted P r₁ = whitelisted P r₂ := by
  simp [whitelisted, hm, hp]

/-- A session bound to another host is never forwarded (and the browser is sent to sign in again). -/
theorem C01_cross_host_session_rejected (lower : Bytes → Bytes) (P : Policy) (now : Int) (r : ReqIn) (s : Sess) (a : Ans)
    (hh : s.host ≠ r.host) (hw : whitelisted P r = false) :
    ∀ id, (proxy lower P now r (.opens s) a).outcome ≠ .forward id :=
  (proxy_refuses hw (.inr (.inl hh.symm))).1

/-- the model's route table is the one `OAuthProxy.Handler` registers: every path except the six fixed ones goes to `Proxy` -/
theorem C01_routes :
    Sso.Generated.proxyRoutes =
      [("/favicon.ico", "p.Favicon"), ("/robots.txt", "p.RobotsTxt"), ("/oauth2/v1/certs", "p.Certs"), ("/oauth2/sign_out", "p.SignOut"),
       ("/oauth2/callback", "p.OAuthCallback"), ("/oauth2/auth", "p.AuthenticateOnly"), ("prefix:/", "p.Proxy")] ∧
    (∀ r ∈ Sso.Generated.proxyRoutes, r.1.startsWith "prefix:" = false → "p." ++ handlerOf r.1 = r.2) := by
  refine ⟨rfl, fun r hr => ?_⟩
  simp only [Sso.Generated.proxyRoutes, List.mem_cons, List.not_mem_nil, or_false] at hr
  rcases hr with rfl | rfl | rfl | rfl | rfl | rfl | rfl
  iterate 6 exact fun _ => rfl
  -- the seventh row is the prefix route
  exact fun h => by simp at h

def exPol : Policy := { slug := "google", rules := ⟨[], [[120]], []⟩, allowedGroups := [], L := 3600, V := 60, G := 600,
                        passAccessToken := false, skipPreflight := false }
def exSess : Sess := { slug := "google", host := "app.x", email := [97, 64, 120], user := "a", access := "t", refreshTok := "r",
                       groups := [], lifetime := 1000, refresh := 500, valid := 100, grace := none }
def exReq : ReqIn := { method := "GET", host := "app.x", whitelistedPath := false, xhr := false }
def exAns : Ans := { refresh := .transport, validate := .ok (), profile := .transport }

example : (proxy id exPol 50 exReq (.opens exSess) exAns).outcome = .forward (some ⟨"a", [97, 64, 120], [], none⟩) := by decide
example : (proxy id exPol 150 exReq (.opens exSess) exAns).writes = [.save { exSess with valid := 210 }] := by decide
example : (proxy id exPol 150 exReq (.opens exSess) { exAns with validate := .status 401 }).outcome = .errorPage 403 := by decide
example : (proxy id exPol 1500 exReq (.opens exSess) exAns).outcome = .startOAuth := by decide
example : (proxy id exPol 50 { exReq with host := "other.x" } (.opens exSess) exAns).outcome = .startOAuth := by decide

/-- `Proxy`'s error switch: exactly the five restart-the-flow errors, 403, 401, and 500 for everything else; the
middleware order of `Handler` (https upgrade inside header overrides inside security headers). -/
theorem C01_skeleton_Proxy : Sso.Generated.skel_proxy_Proxy =
    ["call:Now", "range{", "call:Del", "}", "call:IsWhitelistedRequest", "if{", "}", "else{", "call:Authenticate", "}", "if{", "switch{", "case http.ErrNoCookie{", "call:OAuthStart", "return", "}", "case ErrLifetimeExpired{", "call:OAuthStart", "return", "}", "case ErrWrongIdentityProvider{", "call:OAuthStart", "return", "}", "case ErrUnauthorizedUpstreamRequested{", "call:OAuthStart", "return", "}", "case sessions.ErrInvalidSession{", "call:OAuthStart", "return", "}", "case ErrUserNotAuthorized{", "call:ErrorPage", "return", "}", "case providers.ErrTokenRevoked{", "call:ErrorPage", "return", "}", "default{", "call:ErrorPage", "return", "}", "}", "}", "call:Now", "call:Sub", "call:ServeHTTP"] := rfl

/-- Tie (T1): `Authenticate` — the gate order (provider slug, host binding, lifetime, refresh, validation, validators) — and the two entry points that reuse it. -/
theorem C01_wiring :
    Sso.Generated.skel_proxy_Authenticate =
      ["call:getRemoteAddr", "defer{", "if{", "call:ClearSession", "}", "}", "call:LoadSession", "if{", "return", "}", "call:Data", "if{", "return", "}", "if{", "return", "}", "call:LifetimePeriodExpired", "if{", "return", "}", "else{", "call:RefreshPeriodExpired", "if{", "call:RefreshSession", "if{", "return", "}", "if{", "return", "}", "call:SaveSession", "if{", "return", "}", "}", "else{", "call:ValidationPeriodExpired", "if{", "call:ValidateSessionState", "if{", "return", "}", "call:SaveSession", "if{", "return", "}", "}", "}", "}", "range{", "if{", "call:Validate", "if{", "return", "}", "}", "}", "range{", "call:Set", "}", "call:Set", "if{", "call:Set", "}", "call:Set", "call:Join", "call:Set", "call:Header", "call:Set", "return"] ∧
    Sso.Generated.skel_proxy_AuthenticateOnly =
      ["call:Authenticate", "if{", "call:Error", "}", "call:WriteHeader"] ∧
    Sso.Generated.skel_proxy_IsWhitelistedRequest =
      ["if{", "return", "}", "range{", "call:MatchString", "if{", "return", "}", "}", "return"] ∧
    Sso.Generated.skel_proxy_Favicon =
      ["call:Authenticate", "if{", "call:WriteHeader", "return", "}", "call:Proxy"] := ⟨rfl, rfl, rfl, rfl⟩

/-- Tie (T1): helpers, stores and second callers on this property's path (sessions_LifetimePeriodExpired, sessions_RefreshPeriodExpired, sessions_ValidationPeriodExpired, store_ClearSession, store_SaveSession, proxy_SignOut). -/
theorem C01_wiring2 :
    Sso.Generated.skel_sessions_LifetimePeriodExpired =
      ["call:isExpired", "return"] ∧
    Sso.Generated.skel_sessions_RefreshPeriodExpired =
      ["call:isExpired", "return"] ∧
    Sso.Generated.skel_sessions_ValidationPeriodExpired =
      ["call:isExpired", "return"] ∧
    Sso.Generated.skel_store_ClearSession =
      ["call:Now", "call:makeSessionCookie", "call:SetCookie"] ∧
    Sso.Generated.skel_store_SaveSession =
      ["call:MarshalSession", "if{", "return", "}", "call:setSessionCookie", "return"] ∧
    Sso.Generated.skel_proxy_SignOut =
      ["call:ClearSession", "if{", "if{", "}", "else{", "}", "}", "call:GetSignOutURL", "call:String", "call:Redirect"] := ⟨rfl, rfl, rfl, rfl, rfl, rfl⟩

/-- Tie (T1): `cmd/sso-proxy/main.go`: load the configuration from the environment, validate it, `proxy.New`, wrap in the logging handler, serve — the sequence the harness reproduces when it builds the service in-process (configuration validated before
anything is served; the handler wrapping). -/
theorem C01_skeleton_cmd_proxy_main : Sso.Generated.skel_cmd_proxy_main =
    ["call:LoadConfig", "if{", "call:Exit", "}", "call:Validate", "if{", "call:Exit", "}", "call:NewStatsdClient", "if{", "call:Exit", "}", "go{", "call:New", "call:Run", "}", "call:SetUpstreamConfigs", "if{", "call:Exit", "}", "call:New", "if{", "call:Exit", "}", "call:NewLoggingHandler", "call:Sprintf", "call:Run", "if{", "}"] := rfl

/-- Tie (T1): the constructors and option functions that hand configured values to the components this property
speaks about (proxy_SetCookieStore). -/
theorem C01_wiring3 :
    Sso.Generated.skel_proxy_SetCookieStore =
      ["func{", "call:DecodeString", "if{", "return", "}", "call:CreateMiscreantCookieCipher", "func{", "store:c.CookieDomain", "store:c.CookieHTTPOnly", "store:c.CookieExpire", "store:c.CookieSecure", "return", "}", "call:NewCookieStore", "if{", "return", "}", "store:op.csrfStore", "store:op.sessionStore", "store:op.cookieCipher", "return", "}", "return"] := rfl

end Sso.Proxy
