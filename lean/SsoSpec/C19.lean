import Generated.Facts
import SsoModel.AuthN
import SsoSpec.C16
import SsoSpec.C05

/-!
# C19 — sign-out really signs out
The proxy half (cookie cleared, signed return address on the same host) is `proxySignOut` in `SsoModel/AuthN.lean`; that its
signature is the one `validSignature` accepts is `C19_proxy_link_passes_signature_gate` (the harness recomputes the
authenticator's MAC on the real link).
-/
namespace Sso.AuthN

/-- `/sign_out` is gated: no revoke, no cookie change, no redirect to the caller's URI without an in-domain, signed, fresh
`redirect_uri` (instance of C07 over the regenerated route table). -/
theorem C19_auth_signout_gated :
    ∃ r ∈ Sso.Generated.authRoutes, r.1 = "/sign_out" ∧ r.2.1 = ["GET", "POST"] ∧
      r.2.2.1 = ["withMethods", "validateRedirectURI", "validateSignature"] :=
  ⟨_, .tail _ (.tail _ (.head _)), rfl, rfl, rfl⟩   -- the third row

/-- **Order**: on POST with a loadable session the provider's `Revoke` is called exactly once; the cookie is cleared and
the browser returned **iff** revocation succeeded; on failure the user sees the 500 sign-out page, no clearing cookie
is set (so the session still loads afterwards). -/
theorem C19_auth_signout_order (s : ASess) (revokeOK : Bool) :
    (signOut "POST" (.opens s) revokeOK).2.2 = ["revoke"] ∧
    ((signOut "POST" (.opens s) revokeOK).1 = .redirect ↔ revokeOK = true) ∧
    ((signOut "POST" (.opens s) revokeOK).2.1 = [.clear] ↔ revokeOK = true) ∧
    (revokeOK = false → (signOut "POST" (.opens s) revokeOK).1 = .errorPage ∧ (signOut "POST" (.opens s) revokeOK).2.1 = []) := by
  cases revokeOK <;> simp [signOut]

/-- **The proxy's half.** Visiting the proxy's sign-out URL clears the proxy session cookie and sends the browser to the
authenticator with a return address on the *same host* (`scheme://<request Host>/`, nothing request-controlled beyond the Host
that routed the request) whose signature covers exactly the return address and the timestamp it carries. -/
theorem C19_proxy_signout (secure : Bool) (host : String) (now : Int) :
    (proxySignOut secure host now).1 = true ∧
    (proxySignOut secure host now).2.redirectURI = (if secure then "https" else "http") ++ "://" ++ host ++ "/" ∧
    (proxySignOut secure host now).2.ts = now ∧
    (proxySignOut secure host now).2.signedOver =
      macInput (proxySignOut secure host now).2.redirectURI (proxySignOut secure host now).2.ts := by
  simp [proxySignOut]

theorem nat_repr_ne (n : Nat) : Nat.repr n ≠ "" := Nat.repr_ne_empty

theorem int_toString_ne (t : Int) : toString t ≠ "" := by
  cases t with
  | ofNat n => simp [toString, Int.repr]
  | negSucc n =>
    intro h
    have := congrArg String.length h
    simp [toString, Int.repr] at this

/-- **The two halves fit.** With the same client secret on both sides (non-empty), the link the proxy hands out passes the
authenticator's signature gate for five minutes — and with a different secret it never does. -/
theorem C19_proxy_link_passes_signature_gate (secure : Bool) (host secretP secretA : String) (t now : Int) (parses : Bool) :
    validSignature secretA now (sigInOfLink secretP secretA (proxySignOut secure host t).2 parses) =
      (decide (secretA ≠ "") && parses && decide (now - t ≤ sigTTL) && decide (secretP = secretA)) := by
  have hts : t.repr ≠ "" := by simpa [toString] using int_toString_ne t
  have huri : (if secure = true then "https" else "http") ++ "://" ++ host ++ "/" ≠ "" := by
    intro h
    have := congrArg String.length h
    cases secure <;> simp [String.length_append] at this
  simp [validSignature, sigInOfLink, proxySignOut, hts, huri, Bool.and_assoc]

example : validSignature "s" 100 (sigInOfLink "s" "s" (proxySignOut true "app.x.io" 0).2 true) = true := by
  rw [C19_proxy_link_passes_signature_gate]; decide

/-- GET never revokes or clears: it shows the confirmation page (or just returns the browser when no session loads). -/
theorem C19_auth_signout_get (c : CookieIn) (revokeOK : Bool) :
    (signOut "GET" c revokeOK).2.1 = [] ∧ (signOut "GET" c revokeOK).2.2 = [] := by
  cases c <;> simp [signOut]

/-- Without a session there is nothing to revoke: the browser is returned (an undecodable cookie is cleared). -/
theorem C19_auth_signout_no_session (revokeOK : Bool) :
    (signOut "POST" .absent revokeOK) = (.redirect, [], []) ∧ (signOut "POST" .junk revokeOK) = (.redirect, [.clear], []) := by
  simp [signOut]

/-- Tie (T1): concurrent revocations are coalesced **by access token** (`SingleFlightProvider.Revoke`, key expression
regenerated from the source) … -/
theorem C19_revoke_keyed_by_token :
    Sso.Generated.sf_keys_auth.lookup "Revoke" = some "s.AccessToken" := by decide

/-- … so a sign-out's revocation can only be merged into a revocation of the *same token*: two sessions of one user
(two devices, two token pairs) signing out at the same time each get their own call to the identity provider.
(`compositeKey` is the `endpoint/key` string the single-flight group is indexed by; instance of C16's key injectivity.) -/
theorem C19_revoke_merged_only_for_same_token {α : Type} (slash : α) (revoke tok₁ tok₂ : List α) (h : slash ∉ revoke)
    (hk : Sso.SfWrappers.compositeKey slash revoke tok₁ = Sso.SfWrappers.compositeKey slash revoke tok₂) : tok₁ = tok₂ :=
  (Sso.SfWrappers.C16_composite_key_injective slash revoke revoke tok₁ tok₂ h h hk).2

/-- Tie (T1): `SignOut` loads the session, calls `Revoke`, and only then clears and redirects. -/
theorem C19_skeleton_SignOut : Sso.Generated.skel_auth_SignOut =
    ["call:Get", "call:getProxyHost", "if{", "call:SignOutPage", "return", "}", "call:LoadSession", "switch{", "case nil{", "break", "}", "case http.ErrNoCookie{", "call:Redirect", "return", "}", "default{", "call:ClearSession", "call:Redirect", "return", "}", "}", "call:Revoke", "if{", "call:SignOutPage", "return", "}", "call:ClearSession", "call:Redirect"] := rfl

/-- Tie (T1): the proxy's sign-out handler and the signed sign-out URL. -/
theorem C19_wiring :
    Sso.Generated.skel_proxy_SignOut =
      ["call:ClearSession", "if{", "if{", "}", "else{", "}", "}", "call:GetSignOutURL", "call:String", "call:Redirect"] ∧
    Sso.Generated.skel_sso_GetSignOutURL =
      ["call:Data", "call:Now", "call:String", "call:ParseQuery", "call:Add", "call:Unix", "call:Sprint", "call:Set", "call:signRedirectURL", "call:Set", "call:Encode", "store:a.RawQuery", "return"] ∧
    Sso.Generated.skel_sso_signRedirectURL =
      ["call:?", "call:New", "call:?", "call:Write", "call:Unix", "call:Sprint", "call:?", "call:Write", "call:Sum", "call:EncodeToString", "return"] := ⟨rfl, rfl, rfl⟩

/-- Tie (T1): what the providers' `Revoke` send. -/
theorem C19_skeleton_Revoke :
    Sso.Generated.skel_google_Revoke = ["call:Set", "call:String", "call:googleRequest", "if{", "return", "}", "return"] ∧
    Sso.Generated.skel_okta_Revoke = ["call:Add", "call:Add", "call:Add", "call:Add", "call:String", "call:oktaRequest", "if{", "return", "}", "return"] := ⟨rfl, rfl⟩

end Sso.AuthN

namespace Sso.Proxy
open Sso.Validators

/-- **Afterwards any saved copy of the old proxy session is refused at its next revalidation**: once the identity provider
refuses the token (`/validate` → non-200 that is not 429/503, or `/refresh` → 401 / error), the proxy refuses the request,
does not reach the upstream and clears the cookie (instance of C04's `denied_refuses` with the authenticator relaying the
IdP's refusal). If the IdP is *unavailable* instead, the old cookie enjoys the grace window of C05 — stated, not hidden. -/
theorem C19_old_proxy_session_refused (lower : Bytes → Bytes) (P : Policy) (now : Int) (r : ReqIn) (s : Sess) (a : Ans)
    (hw : whitelisted P r = false) (hr : exp s.refresh now = false) (hv : exp s.valid now = true)
    (hrefused : ∃ n, a.validate = .status n ∧ unavailable n = false) :
    (∀ id, (proxy lower P now r (.opens s) a).outcome ≠ .forward id) ∧
    (proxy lower P now r (.opens s) a).writes.getLast? = some .clear := by
  apply C04_denied_refuses lower P now r s a hw
  obtain ⟨n, h, hu⟩ := hrefused
  exact .inr ⟨hr, hv, by simp [validateWhy_status h, hu]⟩

/-! ### After the sign-out: the whole remaining history of an old cookie -/

/-- The identity provider has revoked the session's tokens, so the authenticator relays a refusal (any status that is not
429/503) both at `/validate` and at `/refresh`. Revocation is permanent: this holds at every later request. -/
def RevokedAns (a : Ans) : Prop :=
  (∃ n, a.validate = .status n ∧ unavailable n = false) ∧ (∃ n, a.refresh = .status n ∧ unavailable n = false)

theorem revoked_whys (P : Policy) (now : Int) (s : Sess) (a : Ans) (h : RevokedAns a) :
    refreshWhy P now s a = none ∧ validateWhy P now s a = none := by
  obtain ⟨⟨n1, h1, u1⟩, ⟨n2, h2, u2⟩⟩ := h
  exact ⟨by simp [refreshWhy_status h2, u2], by simp [validateWhy_status h1, u1]⟩

theorem revoked_step {lower : Bytes → Bytes} {P : Policy} {st : LStep} {c : CookieIn} {s' : Sess} (hrev : RevokedAns st.ans)
    (h : jarAfter c (proxy lower P st.now st.req c st.ans).writes = .opens s') : c = .opens s' := by
  obtain ⟨s, rfl, ⟨_, rfl⟩ | ⟨_, _, _, _, hd⟩⟩ := jar_step h
  · rfl
  have ⟨hrw, hvw⟩ := revoked_whys P st.now s st.ans hrev
  rcases afterDue_cases hd with ⟨_, ⟨w, hw⟩, _⟩ | ⟨_, _, ⟨w, hw⟩, _⟩ | ⟨_, _, rfl⟩
  · rw [hrw] at hw; cases hw
  · rw [hvw] at hw; cases hw
  · rfl

/-- **The old cookie dies, along every history.** Take any saved copy `s` of a proxy session whose tokens have been
revoked at the identity provider (sign-out completed), and any later history of requests presenting it — any number,
any timing, any paths. Then (1) the proxy never re-seals it: the browser's jar holds the original `s` or nothing, so no
deadline ever moves; and (2) a request is served from it only at an instant at which neither its refresh nor its
validity deadline has passed — i.e. at most until the revalidation that was already scheduled when the sign-out
happened; the first request after that is refused and clears the cookie (`C19_old_proxy_session_refused`), after which
nothing is ever served again. -/
theorem C19_revoked_session_dies (lower : Bytes → Bytes) (P : Policy) (s : Sess) (c : CookieIn) (ep : Option Int) (sts : List LStep)
    (hc : ∀ s', c = .opens s' → s' = s) (hrev : ∀ st ∈ sts, RevokedAns st.ans) :
    ∀ x ∈ runL lower P c ep sts,
      (∀ s', x.1 = .opens s' → s' = s) ∧
      (∀ id, (proxy lower P x.2.2.now x.2.2.req x.1 x.2.2.ans).outcome = .forward (some id) →
          x.1 = .opens s ∧ exp s.refresh x.2.2.now = false ∧ exp s.valid x.2.2.now = false) := by
  induction sts generalizing c ep with
  | nil => intro x hx; simp [runL] at hx
  | cons st t ih =>
    intro x hx
    simp only [runL, List.mem_cons] at hx
    have hst : RevokedAns st.ans := hrev st (by simp)
    rcases hx with rfl | hx
    · refine ⟨hc, fun id hf => ?_⟩
      obtain ⟨s₀, hs₀, _, _, _, hd⟩ := forward_authenticated hf
      cases hc s₀ hs₀
      have ⟨hrw, hvw⟩ := revoked_whys P st.now s st.ans hst
      -- a due check would have had to pass, and neither can
      cases hr : exp s.refresh st.now with
      | true => simpa [hrw] using hd.1 hr
      | false =>
        cases hv : exp s.valid st.now with
        | true => simpa [hvw] using hd.2 hr hv
        | false => exact ⟨hs₀, rfl, rfl⟩
    · refine ih _ _ (fun s' hs' => ?_) (fun st' h' => hrev st' (by simp [h'])) x hx
      exact hc s' (revoked_step hst hs')

-- non-vacuity: the old cookie (validity deadline 100) is served at 50 and 90, refused at 150 when its revalidation is due, and gone at 160
def exRevoked : Ans := { refresh := .status 401, validate := .status 401, profile := .ok [] }
example : RevokedAns exRevoked := ⟨⟨401, rfl, by decide⟩, ⟨401, rfl, by decide⟩⟩
example : (runL id exPol (.opens exSess) none [⟨50, exReq, exRevoked⟩, ⟨90, exReq, exRevoked⟩, ⟨150, exReq, exRevoked⟩, ⟨160, exReq, exRevoked⟩]).map
    (fun x => (proxy id exPol x.2.2.now x.2.2.req x.1 x.2.2.ans).outcome)
    = [.forward (some ⟨"a", [97, 64, 120], [], none⟩), .forward (some ⟨"a", [97, 64, 120], [], none⟩), .errorPage 403, .startOAuth] := by decide

/-- Tie (T1): helpers, stores and second callers on this property's path (store_ClearSession). -/
theorem C19_wiring2 :
    Sso.Generated.skel_store_ClearSession =
      ["call:Now", "call:makeSessionCookie", "call:SetCookie"] := rfl

/-- Tie (T1): the constructors and option functions that hand configured values to the components this property
speaks about (proxy_newProvider). -/
theorem C19_wiring3 :
    Sso.Generated.skel_proxy_newProvider =
      ["call:Parse", "if{", "return", "}", "if{", "call:Parse", "if{", "return", "}", "}", "call:New", "call:NewSingleFlightProvider", "return"] := rfl

end Sso.Proxy
