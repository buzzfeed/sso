import Generated.Facts
import SsoSpec.Lemmas.Base64
import SsoModel.Seal
import SsoSpec.Lemmas.List

/-!
# C02 — sealed values are unforgeable and round-trip

Proved concretely: base64 round trip / injectivity / canonicity, the framing (length check, nonce position),
error propagation, round trip of `Marshal`/`Unmarshal`, freshness of the sealed string from freshness of the
nonce, rejection of every string that is not the canonical encoding of a genuine seal under the same key.
Assumed (fields of `AEAD`): authenticity and key separation of AES-CMAC-SIV; confidentiality is not
expressible here and is assumed outright.
-/
namespace Sso.Seal
open Sso.Base64

theorem C02_b64_roundtrip (b : List Nat) (hb : Bytes b) :
    decodeGo (encode b) = some b ∧ decodeCanonical (encode b) = some b :=
  ⟨decodeGo_encode b hb, decodeCanonical_eq_some.2 ⟨decodeGo_encode b hb, rfl⟩⟩

theorem C02_b64_encode_injective (b₁ b₂ : List Nat) (h₁ : Bytes b₁) (h₂ : Bytes b₂)
    (h : encode b₁ = encode b₂) : b₁ = b₂ :=
  Option.some.inj ((decodeGo_encode b₁ h₁).symm.trans (h ▸ decodeGo_encode b₂ h₂))

/-- the canonical decoder accepts exactly the encoder's outputs -/
theorem C02_b64_canonical_iff (s b : List Nat) (hb : Bytes b) :
    decodeCanonical s = some b ↔ s = encode b :=
  ⟨fun h => (decodeCanonical_eq_some.1 h).2.symm, fun h => h ▸ (C02_b64_roundtrip b hb).2⟩

/-- Go's own decoder is lenient — the reason a genuine sealed string used to have many spellings
(finding (a), fixed): an inserted newline, or flipped unused low bits of the last character. -/
theorem C02_go_decoder_malleable :
    (decodeGo [65, 65, 10] = some [0] ∧ [65, 65, 10] ≠ encode [0]) ∧
    (decodeGo [65, 66] = some [0] ∧ [65, 66] ≠ encode [0]) := by decide

section
variable {V : Type} (A : AEAD) (C : Codec V)

theorem joined_bytes (k : Key) (v : V) (n : List Nat) (hn : Bytes n) : Bytes (A.sealF k n (C.enc v) ++ n) :=
  List.forall_mem_append.2 ⟨A.seal_bytes k n _ hn (C.enc_bytes v), hn⟩

/-- What `Unmarshal` accepts, whatever the base64 decoder: the strings that decode to a genuine seal under this key
followed by its nonce (`open_only_seal` for ⇒, `open_seal` for ⇐; the rest is the length check and where the nonce sits). -/
theorem unmarshalWith_eq_some (dec : List Nat → Option (List Nat)) (k : Key) (s : List Nat) (v : V) :
    unmarshalWith dec A C k s = some v ↔
      ∃ n pt, n.length = nonceSize ∧ dec s = some (A.sealF k n pt ++ n) ∧ C.dec pt = some v := by
  unfold unmarshalWith
  constructor
  · intro h
    split at h
    · cases h
    next joined hd =>
    split at h
    · cases h
    next hlen =>
    dsimp only at h
    split at h
    · cases h
    next pt ho =>
    refine ⟨joined.drop (joined.length - nonceSize), pt, ?_, ?_, h⟩
    · rw [List.length_drop, Nat.sub_sub_self (Nat.le_of_not_le hlen)]
    · rw [hd, ← A.open_only_seal _ _ _ _ ho, List.take_append_drop]
  · rintro ⟨n, pt, hn, hd, hv⟩
    have hlen : ¬ (A.sealF k n pt ++ n).length ≤ nonceSize := by
      have := A.seal_nonempty k n pt
      rw [List.length_append, hn]; omega
    have hp : (A.sealF k n pt ++ n).length - nonceSize = (A.sealF k n pt).length := by
      rw [List.length_append, hn, Nat.add_sub_cancel]
    simp only [hd, hlen, if_false, hp, List.drop_left, List.take_left, A.open_seal, hv]

/-- Sealing then opening returns exactly the original value (both decoders). -/
theorem C02_unmarshal_marshal (k : Key) (v : V) (n : List Nat) (hn : Bytes n) (hl : n.length = nonceSize) :
    unmarshal A C k (marshal A C k v n) = some v ∧ unmarshalLenient A C k (marshal A C k v n) = some v :=
  have hr := C02_b64_roundtrip _ (joined_bytes A C k v n hn)
  ⟨(unmarshalWith_eq_some A C _ k _ v).2 ⟨n, _, hl, hr.2, C.dec_enc v⟩,
   (unmarshalWith_eq_some A C _ k _ v).2 ⟨n, _, hl, hr.1, C.dec_enc v⟩⟩

/-- Whatever opens is the **canonical** encoding of a genuine seal under the same key, followed by its
16-byte nonce: every other string — random, truncated, extended, bit-flipped, re-encoded, sealed under
another key — is rejected and yields no data. -/
theorem C02_reject_all_other_strings (k : Key) (s : List Nat) (v : V) (h : unmarshal A C k s = some v) :
    ∃ n pt, n.length = nonceSize ∧ s = encode (A.sealF k n pt ++ n) ∧ C.dec pt = some v :=
  let ⟨n, pt, hn, hd, hv⟩ := (unmarshalWith_eq_some A C _ k s v).1 h
  ⟨n, pt, hn, (decodeCanonical_eq_some.1 hd).2.symm, hv⟩

/-- A value sealed under one key does not open under another. -/
theorem C02_other_key_rejected (k k' : Key) (hk : k ≠ k') (v : V) (n : List Nat) (hn : Bytes n)
    (hl : n.length = nonceSize) : unmarshal A C k' (marshal A C k v n) = none := by
  refine Option.eq_none_iff_forall_ne_some.2 fun v' h => ?_
  obtain ⟨n', pt, hn', hd, -⟩ := (unmarshalWith_eq_some A C _ k' _ v').1 h
  -- the string decodes to one thing only: the seal under `k` is a seal under `k'`
  rw [marshal, (C02_b64_roundtrip _ (joined_bytes A C k v n hn)).2] at hd
  exact hk (A.seal_key_sep _ _ _ _ _ _ (List.append_inj' (Option.some.inj hd) (hl.trans hn'.symm)).1)

/-- Too-short inputs are rejected before the primitive is called. -/
theorem C02_short_rejected (k : Key) (s joined : List Nat) (hd : decodeCanonical s = some joined)
    (hl : joined.length ≤ nonceSize) : unmarshal A C k s = none := by
  simp only [unmarshal, unmarshalWith, hd, hl, if_true]

/-- Undecodable inputs are rejected. -/
theorem C02_undecodable_rejected (k : Key) (s : List Nat) (hd : decodeCanonical s = none) :
    unmarshal A C k s = none := by
  simp only [unmarshal, unmarshalWith, hd]

/-- Sealing the same value twice gives different strings as soon as the two nonces differ
(the nonce is the last 16 decoded bytes; needs only RNG freshness, no cryptographic assumption). -/
theorem C02_fresh_nonce_fresh_string (k : Key) (v : V) (n₁ n₂ : List Nat) (h₁ : Bytes n₁) (h₂ : Bytes n₂)
    (l₁ : n₁.length = nonceSize) (l₂ : n₂.length = nonceSize) (hne : n₁ ≠ n₂) :
    marshal A C k v n₁ ≠ marshal A C k v n₂ := by
  intro h
  have := C02_b64_encode_injective _ _ (joined_bytes A C k v n₁ h₁) (joined_bytes A C k v n₂ h₂) h
  exact hne (List.append_inj' this (by rw [l₁, l₂])).2

/-- … and two different sealed strings never decode to the same (ciphertext, nonce) pair: "different
ciphertexts" in C06 follows from "different strings". -/
theorem C02_distinct_strings_distinct_seals (s₁ s₂ j₁ j₂ : List Nat)
    (h₁ : decodeCanonical s₁ = some j₁) (h₂ : decodeCanonical s₂ = some j₂) (hne : s₁ ≠ s₂) : j₁ ≠ j₂ := by
  intro he; subst he
  exact hne ((decodeCanonical_eq_some.1 h₁).2.symm.trans (decodeCanonical_eq_some.1 h₂).2)

end

/-! ### The assumptions are satisfiable (non-vacuity): a toy AEAD and codec -/

/-- "ciphertext" = key tag ‖ nonce ‖ plaintext (obviously not secret; it only has to satisfy the interface) -/
def toyPre (k : Key) (n : List Nat) : List Nat := List.replicate k 1 ++ 0 :: n

/-- a run of `a`s closed by a different `b` has a definite length -/
theorem replicate_append_cons_inj {α : Type} {a b : α} (hab : a ≠ b) (k k' : Nat) (r r' : List α)
    (h : List.replicate k a ++ b :: r = List.replicate k' a ++ b :: r') : k = k' := by
  have hb (n : Nat) : b ∉ List.replicate n a := fun hm => hab (List.eq_of_mem_replicate hm).symm
  simpa using congrArg List.length (List.append_sep_inj b _ _ r r' (hb k) (hb k') h).1

def AEAD.toy : AEAD where
  sealF k n pt := toyPre k n ++ pt
  openF k n c := if (toyPre k n).isPrefixOf c then some (c.drop (toyPre k n).length) else none
  seal_bytes := by
    intro k n pt hn hpt x hx
    simp only [toyPre, List.mem_append, List.mem_replicate, List.mem_cons] at hx
    rcases hx with (⟨_, h⟩ | h | h) | h
    · omega
    · omega
    · exact hn x h
    · exact hpt x h
  seal_nonempty := by intro k n pt; simp [toyPre]
  open_seal := by
    intro k n pt
    simp [List.isPrefixOf_iff_prefix]
  open_only_seal := by
    intro k n c pt h
    split at h
    · next hp =>
      rw [List.isPrefixOf_iff_prefix] at hp
      obtain ⟨t, rfl⟩ := hp
      simp at h; rw [h]
    · simp at h
  seal_key_sep := by
    intro k k' n n' pt pt' h
    simp only [toyPre, List.append_assoc, List.cons_append] at h
    exact replicate_append_cons_inj (by decide) k k' _ _ h

def Codec.toy : Codec Bool where
  enc v := [if v then 1 else 0]
  dec b := match b with | [1] => some true | [0] => some false | _ => none
  enc_bytes := by intro v x hx; cases v <;> simp at hx <;> omega
  dec_enc := by intro v; cases v <;> rfl

/-- a concrete round trip, a wrong-key rejection and a newline-variant rejection under the toy instance -/
example : unmarshal AEAD.toy Codec.toy 1 (marshal AEAD.toy Codec.toy 1 true (List.replicate 16 7)) = some true := by decide
example : unmarshal AEAD.toy Codec.toy 2 (marshal AEAD.toy Codec.toy 1 true (List.replicate 16 7)) = none := by decide
example : unmarshal AEAD.toy Codec.toy 1 (marshal AEAD.toy Codec.toy 1 true (List.replicate 16 7) ++ [10]) = none := by decide
example : unmarshalLenient AEAD.toy Codec.toy 1 (marshal AEAD.toy Codec.toy 1 true (List.replicate 16 7) ++ [10]) = some true := by decide

/-- Tie (T1): every `Encrypt` draws its nonce from `GenerateNonce` (crypto/rand) — once per sealing, under the cipher's lock;
no pool, no counter, no reuse. "Crypto/rand nonces do not repeat" is the stated assumption; that *this* is where nonces
come from is regenerated from the source. -/
theorem C02_skeleton_Encrypt : Sso.Generated.skel_aead_Encrypt =
    ["call:Lock", "defer:Unlock", "defer{", "call:recover", "if{", "call:Errorf", "}", "}", "call:GenerateNonce", "call:Seal", "call:append", "return"] := rfl

/-- Tie (T1): the cipher is built from the **whole** secret (`NewAES…(secret)` on the slice as given, no copy, no truncation), and
`Decrypt` splits off the nonce and opens with it. -/
theorem C02_skeleton_cipher :
    Sso.Generated.skel_aead_NewMiscreantCipher = ["call:NewAEAD", "if{", "return", "}", "return"] ∧
    Sso.Generated.skel_aead_Decrypt = ["call:Lock", "defer:Unlock", "call:len", "if{", "call:len", "call:Errorf", "return", "}", "call:len", "call:Open", "if{", "return", "}", "return"] := ⟨rfl, rfl⟩

/-- Tie (T1): loading a session opens the cookie with the store's cipher on **every** request (no memo, no shortcut). -/
theorem C02_skeleton_load :
    Sso.Generated.skel_store_LoadSession =
      ["call:Cookie", "if{", "return", "}", "call:UnmarshalSession", "if{", "return", "}", "return"] ∧
    Sso.Generated.skel_sessions_UnmarshalSession =
      ["call:Unmarshal", "if{", "return", "}", "return"] := ⟨rfl, rfl⟩

/-- Tie (T1): helpers, stores and second callers on this property's path (aead_Marshal, aead_Unmarshal, aead_GenerateKey, sessions_MarshalSession). -/
theorem C02_wiring2 :
    Sso.Generated.skel_aead_Marshal =
      ["call:Marshal", "if{", "return", "}", "call:NewWriter", "call:Write", "call:Close", "call:Bytes", "call:Encrypt", "if{", "return", "}", "call:EncodeToString", "return"] ∧
    Sso.Generated.skel_aead_Unmarshal =
      ["call:DecodeString", "if{", "return", "}", "call:EncodeToString", "if{", "call:Errorf", "return", "}", "call:Decrypt", "if{", "return", "}", "call:NewBuffer", "call:NewReader", "if{", "return", "}", "call:Copy", "call:Bytes", "call:Unmarshal", "if{", "return", "}", "return"] ∧
    Sso.Generated.skel_aead_GenerateKey =
      ["call:GenerateKey", "return"] ∧
    Sso.Generated.skel_sessions_MarshalSession =
      ["call:Marshal", "return"] := ⟨rfl, rfl, rfl, rfl⟩

/-- Tie (T1): `SetCookieStore` of the authenticator — two decodes of two configured secrets, the cookie store built from the cookie
secret and the authorization-code cipher from the session key, in this order (a code and a session cookie are the same sealed
format; only their keys keep them apart). -/
theorem C02_skeleton_SetCookieStore : Sso.Generated.skel_auth_SetCookieStore =
    ["func{", "call:DecodeString", "if{", "return", "}", "call:?", "call:NewMiscreantCipher", "if{", "return", "}", "call:DecodeString", "if{", "return", "}", "call:Sprintf", "call:CreateMiscreantCookieCipher", "func{", "store:c.CookieDomain", "store:c.CookieHTTPOnly", "store:c.CookieExpire", "store:c.CookieSecure", "return", "}", "call:NewCookieStore", "if{", "return", "}", "store:a.csrfStore", "store:a.sessionStore", "store:a.AuthCodeCipher", "return", "}", "return"] := rfl

/-- Tie (T1): the constructors and option functions that hand configured values to the components this property
speaks about (proxy_SetCookieStore). -/
theorem C02_wiring3 :
    Sso.Generated.skel_proxy_SetCookieStore =
      ["func{", "call:DecodeString", "if{", "return", "}", "call:CreateMiscreantCookieCipher", "func{", "store:c.CookieDomain", "store:c.CookieHTTPOnly", "store:c.CookieExpire", "store:c.CookieSecure", "return", "}", "call:NewCookieStore", "if{", "return", "}", "store:op.csrfStore", "store:op.sessionStore", "store:op.cookieCipher", "return", "}", "return"] := rfl

end Sso.Seal
