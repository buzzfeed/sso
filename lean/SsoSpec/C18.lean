import SsoSpec.Lemmas.HMap
import Generated.Facts

/-!
# C18 — every response is hardened
-/
namespace Sso.Harden

/-- **Upstreams cannot touch a protected header**: whatever header multimap the upstream sends (set, duplicated,
empty values …), with or without the timeout handler, every header name that `ModifyResponse` deletes keeps exactly
the value the proxy's middlewares gave it. -/
theorem C18_proxied_protected (c : Cfg) (up : HMap) (k : String) (hk : k ∈ c.deleted) :
    hget (proxied c up) k = hget (outer c) k := by
  unfold proxied
  have havoid : ∀ p ∈ c.deleted.foldl hdel up, p.1 ≠ k := by
    intro p hp e
    rw [foldl_hdel] at hp
    exact of_decide_eq_true (List.mem_filter.1 hp).2 (e ▸ hk)
  split
  · exact hget_replaceKeys_of_not_mem havoid
  · exact hget_addAll_of_not_mem havoid

/-- a response sso-proxy writes itself keeps a protected header as long as the handler does not write that name -/
theorem C18_own_protected (c : Cfg) (ws : List Write) (k : String) (h : ∀ w ∈ ws, w.key ≠ k) :
    hget (own c ws) k = hget (outer c) k :=
  hget_foldl applyWrite k ws (fun w hw m => hget_applyWrite_of_ne m w k (h w hw)) _

/-- **The value**: a security header that is not overridden by the upstream's configuration carries the proxy's constant;
one that is overridden carries the configured value — in both cases exactly one value. -/
theorem C18_outer_value (c : Cfg) (k v : String) (hmem : (k, v) ∈ c.securityHeaders)
    (huniq : ∀ v', (k, v') ∈ c.securityHeaders → v' = v) (hk : k ≠ c.hstsName) :
    ((∀ p ∈ c.overrides, p.1 ≠ k) → hget (outer c) k = [v]) ∧
    (∀ ov, (k, ov) ∈ c.overrides → (∀ v', (k, v') ∈ c.overrides → v' = ov) → hget (outer c) k = [ov]) := by
  -- requireHTTPS writes another name
  rw [hget_outer, if_neg fun h => hk h.2.symm]
  exact ⟨fun hno => by rw [hget_setAll_of_not_mem hno]; exact hget_setAll_of_mem huniq (.inr hmem),
    fun ov hov hu => hget_setAll_of_mem hu (.inr hov)⟩

/-- **HSTS**: with secure cookies every response carries exactly the proxy's own HSTS value — overrides cannot change
it (requireHTTPS runs after them) and, provided `ModifyResponse` deletes it from upstream responses, neither can the
upstream. -/
theorem C18_hsts_every_response_when_secure (c : Cfg) (hs : c.secure = true) :
    hget (outer c) c.hstsName = [c.hstsValue] ∧
    (c.hstsName ∈ c.deleted → ∀ up, hget (proxied c up) c.hstsName = [c.hstsValue]) ∧
    (∀ ws, (∀ w ∈ ws, w.key ≠ c.hstsName) → hget (own c ws) c.hstsName = [c.hstsValue]) := by
  have h0 : hget (outer c) c.hstsName = [c.hstsValue] := (hget_outer c _).trans (if_pos ⟨hs, rfl⟩)
  exact ⟨h0, fun hd up => by rw [C18_proxied_protected c up _ hd, h0],
    fun ws hw => by rw [C18_own_protected c ws _ hw, h0]⟩

/-- Without that deletion the upstream *can* replace (timeout handler) or append to (no timeout handler) the proxy's
HSTS value — finding (c), fixed. -/
theorem C18_hsts_needs_deletion :
    let c : Cfg := { securityHeaders := [], overrides := [], secure := true, hstsName := "Strict-Transport-Security",
                     hstsValue := "max-age=31536000", deleted := [], timeoutHandler := true }
    hget (proxied c [("Strict-Transport-Security", ["max-age=0"])]) "Strict-Transport-Security" = ["max-age=0"] ∧
    hget (proxied { c with timeoutHandler := false } [("Strict-Transport-Security", ["max-age=0"])]) "Strict-Transport-Security"
      = ["max-age=31536000", "max-age=0"] := by decide

/-- Tie (T1): the tables of the source. -/
theorem C18_tables :
    Sso.Generated.proxySecurityHeaders =
      [("X-Content-Type-Options", "nosniff"), ("X-Frame-Options", "SAMEORIGIN"), ("X-XSS-Protection", "1; mode=block")] ∧
    (∀ p ∈ Sso.Generated.proxySecurityHeaders, p.1 ∈ Sso.Generated.modifyResponseDeletes ∨
        Sso.Generated.modifyResponseDeletes.contains "range:securityHeaders") ∧
    Sso.Generated.modifyResponseDeletes.contains "Strict-Transport-Security" = true ∧
    Sso.Generated.skel_proxy_Handler =
      ["call:NewRouter", "call:UseEncodedPath", "call:HandleFunc", "call:HandleFunc", "call:HandleFunc", "call:HandleFunc",
       "call:HandleFunc", "call:HandleFunc", "call:PathPrefix", "call:HandlerFunc", "if{", "call:requireHTTPS", "}",
       "call:setResponseHeaderOverrides", "call:setSecurityHeaders", "return"] := ⟨rfl, by decide, by decide, rfl⟩

/-- Cookie flags: every cookie sso writes has path `/`, the configured Secure / HttpOnly flags, and the request host
(without port) or the configured domain. -/
theorem C18_cookie_flags (c : CookieCfg) (name host : String) :
    (makeCookie c name host).path = "/" ∧ (makeCookie c name host).secure = c.secure ∧
    (makeCookie c name host).httpOnly = c.httpOnly ∧
    (c.domain = "" → (makeCookie c name host).domain = host) ∧ (c.domain ≠ "" → (makeCookie c name host).domain = c.domain) := by
  refine ⟨rfl, rfl, rfl, ?_, ?_⟩ <;> intro h <;> simp [makeCookie, h]

/-- Tie (T1): the header middlewares. -/
theorem C18_wiring :
    Sso.Generated.skel_proxy_setHeaders =
      ["func{", "range{", "call:Header", "call:Set", "}", "call:ServeHTTP", "}", "call:HandlerFunc", "return"] ∧
    Sso.Generated.skel_proxy_setSecurityHeaders =
      ["call:setHeaders", "return"] ∧
    Sso.Generated.skel_proxy_setResponseHeaderOverrides =
      ["call:setHeaders", "return"] ∧
    Sso.Generated.skel_auth_setHeaders =
      ["func{", "range{", "call:Header", "call:Set", "}", "call:ServeHTTP", "}", "call:HandlerFunc", "return"] := ⟨rfl, rfl, rfl, rfl⟩

/-- Tie (T1): `makeCookie`. -/
theorem C18_skeleton_makeCookie : Sso.Generated.skel_store_makeCookie =
    ["call:SplitHostPort", "if{", "}", "if{", "call:HasSuffix", "if{", "}", "}", "call:Add", "return"] := rfl

/-- Tie (T1): helpers, stores and second callers on this property's path (store_SaveSession, store_setSessionCookie, store_makeSessionCookie, store_makeCSRFCookie, proxy_newTimeoutHandler). -/
theorem C18_wiring2 :
    Sso.Generated.skel_store_SaveSession =
      ["call:MarshalSession", "if{", "return", "}", "call:setSessionCookie", "return"] ∧
    Sso.Generated.skel_store_setSessionCookie =
      ["call:Now", "call:makeSessionCookie", "call:SetCookie"] ∧
    Sso.Generated.skel_store_makeSessionCookie =
      ["call:makeCookie", "return"] ∧
    Sso.Generated.skel_store_makeCSRFCookie =
      ["call:makeCookie", "return"] ∧
    Sso.Generated.skel_proxy_newTimeoutHandler =
      ["call:Sprintf", "call:TimeoutHandler", "return"] := ⟨rfl, rfl, rfl, rfl, rfl⟩

/-- Tie (T1): the decoder tags of sso-proxy's configuration structs (`internal/proxy/configuration.go`): the names under which the environment and the files reach each
setting this property depends on. -/
theorem C18_tags_proxyConfigTags : Sso.Generated.proxyConfigTags =
    ["Configuration.ServerConfig mapstructure:\"server\"", "Configuration.ProviderConfig mapstructure:\"provider\"", "Configuration.ClientConfig mapstructure:\"client\"", "Configuration.SessionConfig mapstructure:\"session\"", "Configuration.UpstreamConfigs mapstructure:\"upstream\"", "Configuration.MetricsConfig mapstructure:\"metrics\"", "Configuration.LoggingConfig mapstructure:\"logging\"", "Configuration.RequestSignerConfig mapstructure:\"requestsigner\"", "ProviderConfig.ProviderType mapstructure:\"type\"", "ProviderConfig.Scope mapstructure:\"scope\"", "ProviderConfig.ProviderURLConfig mapstructure:\"url\"", "ProviderURLConfig.External mapstructure:\"external\"", "ProviderURLConfig.Internal mapstructure:\"internal\"", "SessionConfig.CookieConfig mapstructure:\"cookie\"", "SessionConfig.TTLConfig mapstructure:\"ttl\"", "CookieConfig.Name mapstructure:\"name\"", "CookieConfig.Secret mapstructure:\"secret\"", "CookieConfig.Expire mapstructure:\"expire\"", "CookieConfig.Domain mapstructure:\"domain\"", "CookieConfig.Secure mapstructure:\"secure\"", "CookieConfig.HTTPOnly mapstructure:\"httponly\"", "TTLConfig.Lifetime mapstructure:\"lifetime\"", "TTLConfig.Valid mapstructure:\"valid\"", "TTLConfig.GracePeriod mapstructre:\"grace_period\"", "ClientConfig.ID mapstructure:\"id\"", "ClientConfig.Secret mapstructure:\"secret\"", "ServerConfig.Port mapstructure:\"port\"", "ServerConfig.TimeoutConfig mapstructure:\"timeout\"", "TimeoutConfig.Write mapstructure:\"write\"", "TimeoutConfig.Read mapstructure:\"read\"", "TimeoutConfig.Shutdown mapstructure:\"shutdown\"", "MetricsConfig.StatsdConfig mapstructure:\"statsd\"", "StatsdConfig.Port mapstructure:\"port\"", "StatsdConfig.Host mapstructure:\"host\"", "LoggingConfig.Enable mapstructure:\"enable\"", "UpstreamConfigs.DefaultConfig mapstructure:\"default\"", "UpstreamConfigs.ConfigsFile mapstructure:\"configfile\"", "UpstreamConfigs.testTemplateVars ", "UpstreamConfigs.upstreamConfigs ", "UpstreamConfigs.Cluster mapstructure:\"cluster\"", "UpstreamConfigs.Scheme mapstructure:\"scheme\"", "DefaultConfig.EmailConfig mapstructure:\"email\"", "DefaultConfig.AllowedGroups mapstructure:\"groups\"", "DefaultConfig.ProviderSlug mapstructure:\"provider\"", "DefaultConfig.Timeout mapstructure:\"timeout\"", "DefaultConfig.ResetDeadline mapstructure:\"resetdeadline\"", "EmailConfig.AllowedDomains mapstructure:\"domains\"", "EmailConfig.AllowedAddresses mapstructure:\"addresses\"", "RequestSignerConfig.Key mapstructure:\"key\""] := rfl

/-- Tie (T1): the decoder tags of sso-auth's configuration structs (`internal/auth/configuration.go`): the names under which the environment and the files reach each
setting this property depends on. -/
theorem C18_tags_authConfigTags : Sso.Generated.authConfigTags =
    ["Configuration.ProviderConfigs mapstructure:\"provider\"", "Configuration.ClientConfigs mapstructure:\"client\"", "Configuration.GroupCacheConfig mapstructure:\"groupcache\"", "Configuration.AuthorizeConfig mapstructure:\"authorize\"", "Configuration.SessionConfig mapstructure:\"session\"", "Configuration.ServerConfig mapstructure:\"server\"", "Configuration.MetricsConfig mapstructure:\"metrics\"", "Configuration.LoggingConfig mapstructure:\"logging\"", "ProviderConfig.ProviderType mapstructure:\"type\"", "ProviderConfig.ProviderSlug mapstructure:\"slug\"", "ProviderConfig.ClientConfig mapstructure:\"client\"", "ProviderConfig.Scope mapstructure:\"scope\"", "ProviderConfig.GoogleProviderConfig mapstructure:\"google\"", "ProviderConfig.OktaProviderConfig mapstructure:\"okta\"", "ProviderConfig.AmazonCognitoProviderConfig mapstructure:\"cognito\"", "ProviderConfig.GroupCacheConfig mapstructure:\"groupcache\"", "GoogleProviderConfig.Credentials mapstructure:\"credentials\"", "GoogleProviderConfig.Impersonate mapstructure:\"impersonate\"", "GoogleProviderConfig.ApprovalPrompt mapstructure:\"prompt\"", "GoogleProviderConfig.HostedDomain mapstructure:\"domain\"", "OktaProviderConfig.ServerID mapstructure:\"server\"", "OktaProviderConfig.OrgURL mapstructure:\"url\"", "AmazonCognitoProviderConfig.OrgURL mapstructure:\"url\"", "AmazonCognitoProviderConfig.UserPoolID mapstructure:\"id\"", "AmazonCognitoProviderConfig.Region mapstructure:\"region\"", "AmazonCognitoProviderConfig.Credentials mapstructure:\"credentials\"", "CognitoCredentials.ID mapstructure:\"id\"", "CognitoCredentials.Secret mapstructure:\"secret\"", "GroupCacheConfig.CacheIntervalConfig mapstructure:\"interval\"", "CacheIntervalConfig.Provider mapstructure:\"provider\"", "CacheIntervalConfig.Refresh mapstructure:\"refresh\"", "SessionConfig.CookieConfig mapstructure:\"cookie\"", "SessionConfig.SessionLifetimeTTL mapstructure:\"lifetime\"", "SessionConfig.Key mapstructure:\"key\"", "CookieConfig.Name mapstructure:\"name\"", "CookieConfig.Secret mapstructure:\"secret\"", "CookieConfig.Domain mapstructure:\"domain\"", "CookieConfig.Expire mapstructure:\"expire\"", "CookieConfig.Secure mapstructure:\"secure\"", "CookieConfig.HTTPOnly mapstructure:\"httponly\"", "ServerConfig.Host mapstructure:\"host\"", "ServerConfig.Port mapstructure:\"port\"", "ServerConfig.Scheme mapstructure:\"scheme\"", "ServerConfig.TimeoutConfig mapstructure:\"timeout\"", "TimeoutConfig.Write mapstructure:\"write\"", "TimeoutConfig.Read mapstructure:\"read\"", "TimeoutConfig.Request mapstructure:\"request\"", "TimeoutConfig.Shutdown mapstructure:\"shutdown\"", "ClientConfig.ID mapstructure:\"id\"", "ClientConfig.Secret mapstructure:\"secret\"", "AuthorizeConfig.EmailConfig mapstructure:\"email\"", "AuthorizeConfig.ProxyConfig mapstructure:\"proxy\"", "EmailConfig.Domains mapstructure:\"domains\"", "EmailConfig.Addresses mapstructure:\"addresses\"", "ProxyConfig.Domains mapstructure:\"domains\"", "MetricsConfig.StatsdConfig mapstructure:\"statsd\"", "LoggingConfig.Enable mapstructure:\"enable\"", "LoggingConfig.Level mapstructure:\"level\"", "StatsdConfig.Port mapstructure:\"port\"", "StatsdConfig.Host mapstructure:\"host\""] := rfl

/-- Tie (T1): `cmd/sso-proxy/main.go`: load the configuration from the environment, validate it, `proxy.New`, wrap in the logging handler, serve — the sequence the harness reproduces when it builds the service in-process (configuration validated before
anything is served; the handler wrapping). -/
theorem C18_skeleton_cmd_proxy_main : Sso.Generated.skel_cmd_proxy_main =
    ["call:LoadConfig", "if{", "call:Exit", "}", "call:Validate", "if{", "call:Exit", "}", "call:NewStatsdClient", "if{", "call:Exit", "}", "go{", "call:New", "call:Run", "}", "call:SetUpstreamConfigs", "if{", "call:Exit", "}", "call:New", "if{", "call:Exit", "}", "call:NewLoggingHandler", "call:Sprintf", "call:Run", "if{", "}"] := rfl

/-- Tie (T1): `cmd/sso-auth/main.go`: load the configuration from the environment, validate it, `NewAuthenticatorMux`, wrap in the timeout and logging handlers, serve — the sequence the harness reproduces when it builds the service in-process (configuration validated before
anything is served; the handler wrapping). -/
theorem C18_skeleton_cmd_auth_main : Sso.Generated.skel_cmd_auth_main =
    ["call:LoadConfig", "if{", "call:Exit", "}", "call:Validate", "if{", "call:Exit", "}", "call:NewStatsdClient", "if{", "call:Exit", "}", "call:NewAuthenticatorMux", "if{", "call:Exit", "}", "defer:Stop", "call:TimeoutHandler", "call:Sprintf", "call:NewLoggingHandler", "call:Run", "if{", "}"] := rfl

/-- Tie (T1): the constructors and option functions that hand configured values to the components this property
speaks about (proxy_SetCookieStore). -/
theorem C18_wiring3 :
    Sso.Generated.skel_proxy_SetCookieStore =
      ["func{", "call:DecodeString", "if{", "return", "}", "call:CreateMiscreantCookieCipher", "func{", "store:c.CookieDomain", "store:c.CookieHTTPOnly", "store:c.CookieExpire", "store:c.CookieSecure", "return", "}", "call:NewCookieStore", "if{", "return", "}", "store:op.csrfStore", "store:op.sessionStore", "store:op.cookieCipher", "return", "}", "return"] := rfl

end Sso.Harden
