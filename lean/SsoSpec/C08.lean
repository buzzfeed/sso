import Generated.Facts
import SsoSpec.Lemmas.AuthN

/-!
# C08 — the back channel needs client credentials; only genuine codes redeem
-/
namespace Sso.AuthN

/-- Tie (T1): every one of the four back-channel routes carries `validateClientID` and `validateClientSecret` between
`withMethods` and the handler. -/
theorem C08_backchannel_gated :
    ∀ r ∈ Sso.Generated.authRoutes, r.1 ∈ ["/profile", "/validate", "/redeem", "/refresh"] →
      r.2.2.1 = ["withMethods", "validateClientID", "validateClientSecret"] := by decide

/-- **Gate soundness**: behind `validateClientID ▸ validateClientSecret` the handler runs only for the exact configured
client id and secret — wherever the parameters were placed (the request model carries what `FormValue` / `Form.Get` /
the header lookup return); with non-empty configured credentials an absent credential never passes. -/
theorem C08_gate_sound (c : Cfg) (now : Int) (r : Req) (pre post : List Gate)
    (h : firstFail c now r (pre ++ [.clientID, .clientSecret] ++ post) = none) :
    r.clientID = c.proxyID ∧ r.clientSecret = c.proxySecret := by
  have h := firstFail_eq_none.1 h
  exact ⟨(of_gateFail_eq_none c now r .clientID (h _ (by simp))).2,
    (of_gateFail_eq_none c now r .clientSecret (h _ (by simp))).2⟩

theorem C08_absent_credential_never_passes (c : Cfg) (now : Int) (r : Req)
    (hid : c.proxyID ≠ "") (hsec : c.proxySecret ≠ "") (habs : r.clientID = "" ∨ r.clientSecret = "") :
    firstFail c now r [.clientID, .clientSecret] ≠ none := by
  intro h
  have := C08_gate_sound c now r [] [] (by simpa using h)
  rcases habs with e | e
  · exact hid (this.1 ▸ e)
  · exact hsec (this.2 ▸ e)

/-- **Only genuine, unexpired codes redeem, and they return exactly the sealed session**: `/redeem` answers with tokens only
if the code opens under the authorization-code key to a session whose refresh and lifetime deadlines have not passed; the
e-mail and tokens in the answer are that session's. -/
theorem C08_redeem_sound (now : Int) (c : CodeIn) (e : Validators.Bytes) (at' rt : String) (ttl : Int)
    (h : redeem now c = .tokens e at' rt ttl) :
    ∃ s, c.opens = some s ∧ aexp s.refresh now = false ∧ aexp s.lifetime now = false ∧
      e = s.email ∧ at' = s.access ∧ rt = s.refreshTok ∧ ttl = s.refresh - now := by
  revert h
  fun_cases redeem now c <;> intro h <;> cases h
  -- only the last branch of `redeem` answers with tokens
  have hx := Bool.or_eq_false_iff.1 (eq_false_of_ne_true ‹_›)
  exact ⟨_, ‹_›, hx.1, hx.2, rfl, rfl, rfl, rfl⟩

/-- key separation (instance of C02): a value sealed under the cookie secret does not open under a different
authorization-code key, so a session cookie cannot be redeemed as a code. -/
theorem C08_redeem_key_separation (c : CodeIn) (now : Int) (h : c.opens = none) : redeem now c = .error 401 := by
  simp [redeem, h]

/-- **The other three back-channel endpoints say only what the provider said.** `/refresh` answers 201 with a token exactly
when the provider refreshed, and then with *that* token and lifetime; `/validate` answers 200 exactly when a token was
presented and the provider accepts it; `/profile` returns the e-mail asked about with exactly the provider's groups. With the
required parameter missing the provider is not even asked. -/
theorem C08_backchannel_echoes_provider :
    (∀ rt p tok ttl, (refreshH rt p).1 = .refreshed tok ttl ↔ rt ≠ "" ∧ p = .ok (tok, ttl)) ∧
    (∀ at' ok, (validateH at' ok).1 = .status 200 ↔ at' ≠ "" ∧ ok = true) ∧
    (∀ em m gs e, (profileH em m).1 = .profile e gs ↔ em ≠ "" ∧ e = em ∧ m = .ok gs) ∧
    (∀ p, (refreshH "" p).2 = []) ∧ (∀ ok, (validateH "" ok).2 = []) ∧ (∀ m, (profileH "" m).2 = []) := by
  refine ⟨?_, ?_, ?_, fun _ => rfl, fun _ => rfl, fun _ => rfl⟩
  · intro rt p tok ttl; fun_cases refreshH rt p <;> simp [*]
  · intro at' ok; fun_cases validateH at' ok <;> simp [*]
  · intro em m gs e; fun_cases profileH em m <;> simp [*, eq_comm]

/-- `/profile` at Okta names a group only if it was asked about **and** the identity provider lists it for the token's
user; without a token the provider is not called. -/
theorem C08_profile_names_only_asked_and_vouched_groups (allowed : List String) (access : String) (ui : Except PErr (List String)) (gs : List String)
    (h : (oktaMembership allowed access ui).1 = .ok gs) :
    access ≠ "" ∧ ∀ g ∈ gs, g ∈ allowed ∧ ∃ us, ui = .ok us ∧ g ∈ us := by
  revert h
  fun_cases oktaMembership allowed access ui <;> intro h <;> cases h <;> refine ⟨‹_›, ?_⟩
  -- two branches answer `.ok`: nothing was asked, or userinfo listed some groups
  · nofun
  · intro g hg
    have hg := List.mem_filter.1 hg
    exact ⟨hg.1, _, rfl, by simpa using hg.2⟩

/-- Tie (T1): `Redeem` opens the code (`UnmarshalSession`) and checks both deadlines (`RefreshPeriodExpired`,
`LifetimePeriodExpired`) on **every** request, before anything is marshalled — no cache, no fast path. -/
theorem C08_skeleton_Redeem : Sso.Generated.skel_auth_Redeem =
    ["call:ParseForm", "if{", "call:Error", "call:Sprintf", "call:Error", "return", "}", "call:Get", "call:UnmarshalSession", "if{", "call:Error", "call:Sprintf", "call:Error", "return", "}", "if{", "call:Error", "call:Sprintf", "call:Error", "return", "}", "call:RefreshPeriodExpired", "call:LifetimePeriodExpired", "if{", "call:ClearSession", "call:Sprintf", "call:Error", "return", "}", "call:Now", "call:Sub", "call:Seconds", "call:int64", "call:Marshal", "if{", "call:WriteHeader", "return", "}", "call:Header", "call:Set", "call:Header", "call:Set", "call:Write"] := rfl

/-- Tie (T1): the client-credential middlewares and the other three back-channel handlers. -/
theorem C08_wiring :
    Sso.Generated.skel_auth_validateClientID =
      ["func{", "call:ParseForm", "if{", "call:Error", "call:ErrorResponse", "return", "}", "call:FormValue", "if{", "call:Query", "call:Get", "}", "if{", "call:ErrorResponse", "return", "}", "call:f", "}", "return"] ∧
    Sso.Generated.skel_auth_validateClientSecret =
      ["func{", "call:ParseForm", "if{", "call:Error", "call:ErrorResponse", "return", "}", "call:Get", "if{", "call:Get", "}", "if{", "call:ErrorResponse", "return", "}", "call:f", "}", "return"] ∧
    Sso.Generated.skel_auth_Refresh =
      ["call:ParseForm", "if{", "call:Error", "call:Sprintf", "call:Error", "return", "}", "call:Get", "if{", "call:Error", "return", "}", "call:RefreshAccessToken", "if{", "call:Error", "call:codeForError", "call:ErrorResponse", "return", "}", "call:Seconds", "call:int64", "call:Marshal", "if{", "call:WriteHeader", "return", "}", "call:WriteHeader", "call:Header", "call:Set", "call:Write"] ∧
    Sso.Generated.skel_auth_ValidateToken =
      ["call:Get", "if{", "call:WriteHeader", "return", "}", "call:ValidateSessionState", "if{", "call:WriteHeader", "return", "}", "call:WriteHeader", "return"] := ⟨rfl, rfl, rfl, rfl⟩

/-- Tie (T1): helpers, stores and second callers on this property's path (auth_GetProfile, okta_ValidateGroupMembership). -/
theorem C08_wiring2 :
    Sso.Generated.skel_auth_GetProfile =
      ["call:FormValue", "if{", "call:Error", "return", "}", "call:Get", "if{", "}", "call:FormValue", "if{", "call:Split", "}", "call:ValidateGroupMembership", "if{", "call:Error", "call:codeForError", "call:ErrorResponse", "return", "}", "call:Marshal", "if{", "call:Error", "call:Sprintf", "call:Error", "return", "}", "call:Header", "call:Set", "call:Header", "call:Set", "call:Write"] ∧
    Sso.Generated.skel_okta_ValidateGroupMembership =
      ["if{", "return", "}", "call:len", "if{", "return", "}", "call:GetUserProfile", "if{", "return", "}", "call:len", "if{", "call:New", "return", "}", "range{", "range{", "if{", "call:append", "break", "}", "}", "}", "return"] := ⟨rfl, rfl⟩

/-- Tie (T1): `SetCookieStore` of the authenticator — two decodes of two configured secrets, the cookie store built from the cookie
secret and the authorization-code cipher from the session key, in this order (a code and a session cookie are the same sealed
format; only their keys keep them apart). -/
theorem C08_skeleton_SetCookieStore : Sso.Generated.skel_auth_SetCookieStore =
    ["func{", "call:DecodeString", "if{", "return", "}", "call:?", "call:NewMiscreantCipher", "if{", "return", "}", "call:DecodeString", "if{", "return", "}", "call:Sprintf", "call:CreateMiscreantCookieCipher", "func{", "store:c.CookieDomain", "store:c.CookieHTTPOnly", "store:c.CookieExpire", "store:c.CookieSecure", "return", "}", "call:NewCookieStore", "if{", "return", "}", "store:a.csrfStore", "store:a.sessionStore", "store:a.AuthCodeCipher", "return", "}", "return"] := rfl

/-- Tie (T1): the decoder tags of sso-auth's configuration structs (`internal/auth/configuration.go`): the names under which the environment and the files reach each
setting this property depends on. -/
theorem C08_tags_authConfigTags : Sso.Generated.authConfigTags =
    ["Configuration.ProviderConfigs mapstructure:\"provider\"", "Configuration.ClientConfigs mapstructure:\"client\"", "Configuration.GroupCacheConfig mapstructure:\"groupcache\"", "Configuration.AuthorizeConfig mapstructure:\"authorize\"", "Configuration.SessionConfig mapstructure:\"session\"", "Configuration.ServerConfig mapstructure:\"server\"", "Configuration.MetricsConfig mapstructure:\"metrics\"", "Configuration.LoggingConfig mapstructure:\"logging\"", "ProviderConfig.ProviderType mapstructure:\"type\"", "ProviderConfig.ProviderSlug mapstructure:\"slug\"", "ProviderConfig.ClientConfig mapstructure:\"client\"", "ProviderConfig.Scope mapstructure:\"scope\"", "ProviderConfig.GoogleProviderConfig mapstructure:\"google\"", "ProviderConfig.OktaProviderConfig mapstructure:\"okta\"", "ProviderConfig.AmazonCognitoProviderConfig mapstructure:\"cognito\"", "ProviderConfig.GroupCacheConfig mapstructure:\"groupcache\"", "GoogleProviderConfig.Credentials mapstructure:\"credentials\"", "GoogleProviderConfig.Impersonate mapstructure:\"impersonate\"", "GoogleProviderConfig.ApprovalPrompt mapstructure:\"prompt\"", "GoogleProviderConfig.HostedDomain mapstructure:\"domain\"", "OktaProviderConfig.ServerID mapstructure:\"server\"", "OktaProviderConfig.OrgURL mapstructure:\"url\"", "AmazonCognitoProviderConfig.OrgURL mapstructure:\"url\"", "AmazonCognitoProviderConfig.UserPoolID mapstructure:\"id\"", "AmazonCognitoProviderConfig.Region mapstructure:\"region\"", "AmazonCognitoProviderConfig.Credentials mapstructure:\"credentials\"", "CognitoCredentials.ID mapstructure:\"id\"", "CognitoCredentials.Secret mapstructure:\"secret\"", "GroupCacheConfig.CacheIntervalConfig mapstructure:\"interval\"", "CacheIntervalConfig.Provider mapstructure:\"provider\"", "CacheIntervalConfig.Refresh mapstructure:\"refresh\"", "SessionConfig.CookieConfig mapstructure:\"cookie\"", "SessionConfig.SessionLifetimeTTL mapstructure:\"lifetime\"", "SessionConfig.Key mapstructure:\"key\"", "CookieConfig.Name mapstructure:\"name\"", "CookieConfig.Secret mapstructure:\"secret\"", "CookieConfig.Domain mapstructure:\"domain\"", "CookieConfig.Expire mapstructure:\"expire\"", "CookieConfig.Secure mapstructure:\"secure\"", "CookieConfig.HTTPOnly mapstructure:\"httponly\"", "ServerConfig.Host mapstructure:\"host\"", "ServerConfig.Port mapstructure:\"port\"", "ServerConfig.Scheme mapstructure:\"scheme\"", "ServerConfig.TimeoutConfig mapstructure:\"timeout\"", "TimeoutConfig.Write mapstructure:\"write\"", "TimeoutConfig.Read mapstructure:\"read\"", "TimeoutConfig.Request mapstructure:\"request\"", "TimeoutConfig.Shutdown mapstructure:\"shutdown\"", "ClientConfig.ID mapstructure:\"id\"", "ClientConfig.Secret mapstructure:\"secret\"", "AuthorizeConfig.EmailConfig mapstructure:\"email\"", "AuthorizeConfig.ProxyConfig mapstructure:\"proxy\"", "EmailConfig.Domains mapstructure:\"domains\"", "EmailConfig.Addresses mapstructure:\"addresses\"", "ProxyConfig.Domains mapstructure:\"domains\"", "MetricsConfig.StatsdConfig mapstructure:\"statsd\"", "LoggingConfig.Enable mapstructure:\"enable\"", "LoggingConfig.Level mapstructure:\"level\"", "StatsdConfig.Port mapstructure:\"port\"", "StatsdConfig.Host mapstructure:\"host\""] := rfl

/-- Tie (T1): `cmd/sso-auth/main.go`: load the configuration from the environment, validate it, `NewAuthenticatorMux`, wrap in the timeout and logging handlers, serve — the sequence the harness reproduces when it builds the service in-process (configuration validated before
anything is served; the handler wrapping). -/
theorem C08_skeleton_cmd_auth_main : Sso.Generated.skel_cmd_auth_main =
    ["call:LoadConfig", "if{", "call:Exit", "}", "call:Validate", "if{", "call:Exit", "}", "call:NewStatsdClient", "if{", "call:Exit", "}", "call:NewAuthenticatorMux", "if{", "call:Exit", "}", "defer:Stop", "call:TimeoutHandler", "call:Sprintf", "call:NewLoggingHandler", "call:Run", "if{", "}"] := rfl

/-- Tie (T1): the constructors and option functions that hand configured values to the components this property
speaks about (auth_NewAuthenticator). -/
theorem C08_wiring3 :
    Sso.Generated.skel_auth_NewAuthenticator =
      ["call:NewHTMLTemplate", "range{", "call:HasPrefix", "if{", "call:Sprintf", "}", "call:append", "}", "call:newMux", "store:p.ServeMux", "range{", "call:optFunc", "if{", "return", "}", "}", "return"] := rfl

end Sso.AuthN
