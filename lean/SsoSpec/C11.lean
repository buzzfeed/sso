import Generated.Facts
import SsoModel.Validators

/-!
# C11 — allow rules mean what the docs say: any-of, exact address, whole domain, group

All theorems hold for every `lower : Bytes → Bytes` (Go's `strings.ToLower` is left uninterpreted).
-/
namespace Sso.Validators

theorem C11_empty_email_never (lower : Bytes → Bytes) (l : List Bytes) :
    addrPasses lower l [] = false ∧ domainPasses lower l [] = false := ⟨rfl, rfl⟩

theorem C11_empty_rules_never (lower : Bytes → Bytes) (e : Bytes) :
    addrPasses lower [] e = false ∧ domainPasses lower [] e = false := by
  cases e <;> exact ⟨rfl, rfl⟩

/-- the gate both validators share, in front of their own test `t` -/
theorem gate_iff (al : List Bytes) (e : Bytes) (t : Bool) (ht : al = [] → t = false) :
    (if e == [] then false else if al == [] then false else if al == [star] then true else t) = true ↔
      e ≠ [] ∧ (al = [star] ∨ t = true) := by
  by_cases he : e = []
  · simp [he]
  by_cases hl : al = []
  · simp [he, hl, ht hl, star]
  simp [he, hl]

theorem addrPasses_iff (lower : Bytes → Bytes) (l : List Bytes) (e : Bytes) :
    addrPasses lower l e = true ↔ e ≠ [] ∧ (l.map lower = [star] ∨ lower e ∈ l.map lower) := by
  rw [← List.contains_iff_mem]
  exact gate_iff _ _ _ fun h => by rw [h]; rfl

theorem domainPasses_iff (lower : Bytes → Bytes) (l : List Bytes) (e : Bytes) :
    domainPasses lower l e = true ↔
      e ≠ [] ∧ (domainList lower l = [star] ∨ ∃ d ∈ domainList lower l, endsWith (lower e) d = true) := by
  rw [← List.any_eq_true]
  exact gate_iff _ _ _ fun h => by rw [h]; rfl

/-- exact address, case-insensitively (through `lower` on both sides) -/
theorem C11_address_exact (lower : Bytes → Bytes) (allowed : List Bytes) (e : Bytes)
    (hw : allowed.map lower ≠ [star]) :
    addrPasses lower allowed e = true ↔ e ≠ [] ∧ lower e ∈ allowed.map lower :=
  (addrPasses_iff lower allowed e).trans (and_congr_right fun _ => or_iff_right hw)

/-- a lone `*` admits any non-empty e-mail (and only a *lone* one is a wildcard) -/
theorem C11_wildcard_nonempty (lower : Bytes → Bytes) (e : Bytes) :
    (∀ allowed, allowed.map lower = [star] → (addrPasses lower allowed e = true ↔ e ≠ [])) ∧
    (domainPasses lower [star] e = true ↔ e ≠ []) :=
  ⟨fun l h => (addrPasses_iff lower l e).trans (and_iff_left (.inl h)),
   (domainPasses_iff lower [star] e).trans (and_iff_left (.inl rfl))⟩

theorem afterLastAt_eq_none : ∀ {s : Bytes}, afterLastAt s = none ↔ at' ∉ s
  | [] => by simp [afterLastAt]
  | c :: t => by
    rw [afterLastAt, List.mem_cons, not_or, ← afterLastAt_eq_none (s := t)]
    cases afterLastAt t <;> simp [@eq_comm _ at']

theorem afterLastAt_append (pre r : Bytes) (h : at' ∉ r) : afterLastAt (pre ++ at' :: r) = some r := by
  induction pre with
  | nil => simp [afterLastAt, afterLastAt_eq_none.2 h]
  | cons c t ih => simp [afterLastAt, ih]

theorem afterLastAt_some : ∀ (s r : Bytes), afterLastAt s = some r → at' ∉ r ∧ at' :: r <:+ s
  | c :: t, r, h => by
    rw [afterLastAt] at h
    cases ht : afterLastAt t with
    | some r' =>
      obtain rfl : r' = r := by simpa [ht] using h
      obtain ⟨hr, pre, rfl⟩ := afterLastAt_some t r' ht
      exact ⟨hr, c :: pre, rfl⟩
    | none =>
      obtain ⟨rfl, rfl⟩ : c = at' ∧ t = r := by simpa [ht] using h
      exact ⟨afterLastAt_eq_none.1 ht, [], rfl⟩

theorem afterLastAt_eq_some {s r : Bytes} : afterLastAt s = some r ↔ at' ∉ r ∧ at' :: r <:+ s :=
  ⟨afterLastAt_some s r, fun ⟨hr, pre, hp⟩ => hp ▸ afterLastAt_append pre r hr⟩

/-- whole domain, not a look-alike suffix: for a listed domain whose lower-cased form contains no `@`,
the suffix test the code performs is exactly "the part of the e-mail after its last `@` equals the domain". -/
theorem C11_domain_whole (le ld : Bytes) (h : at' ∉ ld) :
    endsWith le (at' :: ld) = true ↔ afterLastAt le = some ld := by
  rw [endsWith, List.isSuffixOf_iff_suffix, afterLastAt_eq_some, and_iff_right h]

theorem exists_mem_map {α β} {f : α → β} {l : List α} {P : β → Prop} :
    (∃ x ∈ l.map f, P x) ↔ ∃ a ∈ l, P (f a) :=
  ⟨fun ⟨_, hx, hP⟩ => let ⟨a, ha, e⟩ := List.mem_map.1 hx; ⟨a, ha, e ▸ hP⟩,
   fun ⟨_, ha, hP⟩ => ⟨_, List.mem_map_of_mem ha, hP⟩⟩

theorem exists_mem_domainList (lower : Bytes → Bytes) (l : List Bytes) (P : Bytes → Prop) :
    (∃ x ∈ domainList lower l, P x) ↔ ∃ d ∈ l, (d ≠ star ∧ P (at' :: lower d)) ∨ (d = star ∧ P star) := by
  refine exists_mem_map.trans (exists_congr fun d => and_congr_right fun _ => ?_)
  by_cases hs : d = star <;> simp [hs]

/-- the domain validator, spelled out: with more than a lone `*`, an e-mail passes iff it is non-empty and its
lower-cased form ends with `@`+lower d for a listed `d ≠ "*"` — or literally with `*` when `*` is listed among
other entries (a quirk: see DESIGN.md, finding domain-star-suffix). -/
theorem C11_domain_spelled_out (lower : Bytes → Bytes) (allowed : List Bytes) (e : Bytes)
    (hw : domainList lower allowed ≠ [star]) :
    domainPasses lower allowed e = true ↔
      e ≠ [] ∧ ∃ d ∈ allowed, (d ≠ star ∧ endsWith (lower e) (at' :: lower d) = true) ∨ (d = star ∧ endsWith (lower e) star = true) :=
  (domainPasses_iff lower allowed e).trans
    (and_congr_right fun _ => (or_iff_right hw).trans (exists_mem_domainList lower allowed _))

theorem any_optional {β} (l : List Bytes) (k : β) (f : β → Bool) :
    (if l ≠ [] then [k] else []).any f = (l != [] && f k) := by cases l <;> simp

theorem all_optional {β} (l : List Bytes) (k : β) (f : β → Bool) :
    (if l ≠ [] then [k] else []).all f = (l == [] || f k) := by cases l <;> simp

theorem any_validatorsOf (p : Policy) (f : VKind → Bool) :
    (validatorsOf p).any f =
      ((p.addrs != [] && f .addr) || (p.domains != [] && f .domain) || (p.groups != [] && f .group)) := by
  simp only [validatorsOf, List.any_append, any_optional]

theorem all_validatorsOf (p : Policy) (f : VKind → Bool) :
    (validatorsOf p).all f =
      ((p.addrs == [] || f .addr) && (p.domains == [] || f .domain) && (p.groups == [] || f .group)) := by
  simp only [validatorsOf, List.all_append, all_optional]

/-- "not all failed" (`len(errors) != len(validators)`) is "some passed" -/
theorem loginAdmits_eq_any (lower : Bytes → Bytes) (p : Policy) (e : Bytes) (g : GroupAns) :
    loginAdmits lower p e g = (validatorsOf p).any (passes lower p e g) := by
  rw [loginAdmits, Bool.eq_iff_iff, bne_iff_ne, Ne, List.length_filter_eq_length_iff, List.any_eq_true]
  simp

/-- the loop skips the group validator, revalidation asks its question whenever groups are configured: together, all pass -/
theorem requestAdmitsDue_eq_all (lower : Bytes → Bytes) (p : Policy) (e : Bytes) (g : GroupAns) :
    requestAdmitsDue lower p e g = (validatorsOf p).all (passes lower p e g) := by
  simp only [requestAdmitsDue, requestAdmits, all_validatorsOf, passes, beq_self_eq_true, Bool.true_or,
    Bool.or_true, Bool.and_true, Bool.false_or, show (VKind.addr == VKind.group) = false from rfl,
    show (VKind.domain == VKind.group) = false from rfl]

theorem specAdmit_eq (lower : Bytes → Bytes) (p : Policy) (e : Bytes) (g : GroupAns) :
    specAdmit lower p e g = (e != [] && loginAdmits lower p e g) := by
  rw [loginAdmits_eq_any, any_validatorsOf]; rfl

/-- At login the verdict is exactly the documented any-of (the callback only runs the validators on a
non-empty e-mail: `redeemCode` rejects an empty one). -/
theorem C11_login_is_anyOf (lower : Bytes → Bytes) (p : Policy) (e : Bytes) (g : GroupAns) (he : e ≠ []) :
    loginAdmits lower p e g = specAdmit lower p e g := by
  rw [specAdmit_eq, bne_iff_ne.2 he, Bool.true_and]

/-- no rule configured ⇒ nobody is admitted at login -/
theorem C11_no_rules_nobody (lower : Bytes → Bytes) (e : Bytes) (g : GroupAns) :
    loginAdmits lower ⟨[], [], []⟩ e g = false :=
  loginAdmits_eq_any lower ⟨[], [], []⟩ e g

/-- Full strength ("the verdict is the same at login and on every later request while the facts are unchanged")
is **refuted**: with two rule kinds configured, a user who satisfies only one is admitted at login and
refused on every request. KNOWN FINDING `allow-rules-all-of`. -/
theorem C11_request_eq_login_refuted :
    ¬ ∀ (lower : Bytes → Bytes) (p : Policy) (e : Bytes) (g : GroupAns), e ≠ [] →
        requestAdmitsDue lower p e g = loginAdmits lower p e g := by
  intro h
  have := h id ⟨[[97, 64, 120]], [[121]], []⟩ [97, 64, 120] .error (by decide)
  revert this; decide

/-- What does hold: with exactly one rule kind configured the verdicts agree (with none, nobody can log in
and configuration loading rejects the upstream, C14). -/
theorem C11_partial_single_kind (lower : Bytes → Bytes) (p : Policy) (e : Bytes) (g : GroupAns) (he : e ≠ [])
    (h1 : (validatorsOf p).length = 1) :
    requestAdmitsDue lower p e g = loginAdmits lower p e g := by
  obtain ⟨v, hv⟩ := List.length_eq_one_iff.1 h1
  rw [requestAdmitsDue_eq_all, loginAdmits_eq_any, hv]
  exact (Bool.and_true _).trans (Bool.or_false _).symm

theorem loginAdmits_of_requestAdmitsDue (lower : Bytes → Bytes) (p : Policy) (e : Bytes) (g : GroupAns)
    (hv : validatorsOf p ≠ []) (h : requestAdmitsDue lower p e g = true) : loginAdmits lower p e g = true := by
  rw [requestAdmitsDue_eq_all] at h
  rw [loginAdmits_eq_any]
  have ⟨v, hv⟩ := List.exists_mem_of_ne_nil _ hv
  exact List.any_eq_true.2 ⟨v, hv, List.all_eq_true.1 h v hv⟩

/-- … and the request-time verdict never admits someone the documented rule refuses when address/domain rules
are the only ones (the all-of reading is *stricter* than any-of, never laxer). -/
theorem C11_request_implies_login (lower : Bytes → Bytes) (p : Policy) (e : Bytes) (g : GroupAns) (he : e ≠ [])
    (hv : validatorsOf p ≠ []) (h : requestAdmitsDue lower p e g = true) : specAdmit lower p e g = true :=
  C11_login_is_anyOf lower p e g he ▸ loginAdmits_of_requestAdmitsDue lower p e g hv h

/-- the verdict is a function of (policy, e-mail, group answer) only: same facts, same verdict, at every request -/
theorem C11_verdict_stable (lower : Bytes → Bytes) (p : Policy) (e : Bytes) (g : GroupAns) :
    ∀ (_n : Nat), requestAdmitsDue lower p e g = requestAdmitsDue lower p e g := fun _ => rfl

def exLower (b : Bytes) : Bytes := b.map fun c => if 65 ≤ c ∧ c ≤ 90 then c + 32 else c
-- "X.io" / "b@x.IO" / "b@notx.io" / "b@x.io.evil"
example : domainPasses exLower [[88, 46, 105, 111]] [98, 64, 120, 46, 73, 79] = true := by decide
example : domainPasses exLower [[120, 46, 105, 111]] [98, 64, 110, 111, 116, 120, 46, 105, 111] = false := by decide
example : domainPasses exLower [[120, 46, 105, 111]] [98, 64, 120, 46, 105, 111, 46, 101, 118, 105, 108] = false := by decide
-- addresses ["a@x", "*"]: the star is not a wildcard when it is not alone
example : addrPasses exLower [[97, 64, 120], [42]] [98, 64, 120] = false := by decide
-- addresses+domains: satisfies the address rule only → admitted at login, refused on every request
example : loginAdmits exLower ⟨[[97, 64, 120]], [[121]], []⟩ [97, 64, 120] .error = true := by decide
example : requestAdmits exLower ⟨[[97, 64, 120]], [[121]], []⟩ [97, 64, 120] = false := by decide

/-- without a `*` in the larger list the smaller one is no lone `*` either: only the validator's own test is left -/
theorem gate_mono {al' al : List Bytes} {t' t : Prop} (hsub : al' ⊆ al) (hstar : star ∉ al) (ht : t' → t) :
    al' = [star] ∨ t' → al = [star] ∨ t
  | .inl hw => absurd (hsub (hw ▸ List.mem_singleton_self star)) hstar
  | .inr h => .inr (ht h)

/-- **Removing address rules never admits anyone new** (and adding one never locks anyone out), as long as no rule is
(or lower-cases to) the wildcard `*`: for wildcard-free lists the address validator is monotone in its rule list. -/
theorem C11_address_rules_monotone (lower : Bytes → Bytes) (l' l : List Bytes) (e : Bytes)
    (hsub : ∀ a ∈ l', a ∈ l) (hstar : star ∉ l.map lower) (h : addrPasses lower l' e = true) :
    addrPasses lower l e = true :=
  have hsub' : l'.map lower ⊆ l.map lower := List.map_subset lower hsub
  (addrPasses_iff lower l e).2 (((addrPasses_iff lower l' e).1 h).imp_right (gate_mono hsub' hstar (hsub' ·)))

/-- …and the guard is needed: next to a second rule the wildcard stops being one, so *adding* a rule to `["*"]` locks
everybody else out (the code compares the whole list with `["*"]`). -/
theorem C11_wildcard_not_monotone :
    addrPasses id [star] [1] = true ∧ addrPasses id [star, [2]] [1] = false := by decide

example : star ∉ [[1],[2]].map id ∧ addrPasses id [[1]] [1] = true := by decide

theorem domainList_no_star (lower : Bytes → Bytes) (l : List Bytes) (h : star ∉ l) : star ∉ domainList lower l := by
  intro hm
  obtain ⟨d, hd, hs | hs⟩ := (exists_mem_domainList lower l (· = star)).1 ⟨star, hm, rfl⟩
  · exact absurd (List.cons.inj hs.2).1 (by decide)
  · exact h (hs.1 ▸ hd)

/-- **Removing domain rules never admits anyone new**, for lists without the wildcard entry `*`. -/
theorem C11_domain_rules_monotone (lower : Bytes → Bytes) (l' l : List Bytes) (e : Bytes)
    (hsub : ∀ a ∈ l', a ∈ l) (hstar : star ∉ l) (h : domainPasses lower l' e = true) :
    domainPasses lower l e = true :=
  have hsub' : domainList lower l' ⊆ domainList lower l := List.map_subset _ hsub
  (domainPasses_iff lower l e).2 (((domainPasses_iff lower l' e).1 h).imp_right
    (gate_mono hsub' (domainList_no_star lower l hstar) fun ⟨d, hd, hp⟩ => ⟨d, hsub' hd, hp⟩))

example : star ∉ [[1],[2]] ∧ domainPasses id [[1]] [9, 64, 1] = true := by decide

/-- Tie (T1): the three validators and the runner. -/
theorem C11_wiring :
    Sso.Generated.skel_validators_domain =
      ["call:ToLower", "range{", "call:HasSuffix", "if{", "return", "}", "}", "return"] ∧
    Sso.Generated.skel_validators_newDomain =
      ["call:len", "call:make", "range{", "if{", "call:append", "}", "else{", "call:ToLower", "call:Sprintf", "call:append", "}", "}", "return"] ∧
    Sso.Generated.skel_validators_address =
      ["call:ToLower", "range{", "if{", "return", "}", "}", "return"] ∧
    Sso.Generated.skel_validators_group =
      ["call:ValidateGroup", "if{", "return", "}", "if{", "store:session.Groups", "return", "}", "return"] ∧
    Sso.Generated.skel_validators_Run =
      ["call:len", "call:make", "range{", "call:Validate", "if{", "call:append", "}", "}", "return"] := ⟨rfl, rfl, rfl, rfl, rfl⟩

/-- Tie (T1): `SetValidators` *replaces* the proxy's validator list. -/
theorem C11_skeleton_SetValidators : Sso.Generated.skel_proxy_SetValidators =
    ["func{", "store:op.Validators", "return", "}", "return"] := rfl

/-- Tie (T1): helpers, stores and second callers on this property's path (sso_UserGroups). -/
theorem C11_wiring2 :
    Sso.Generated.skel_sso_UserGroups =
      ["call:Add", "call:Add", "call:Join", "call:Add", "call:String", "call:Encode", "call:Sprintf", "call:newRequest", "if{", "return", "}", "call:Set", "call:Set", "call:Do", "if{", "return", "}", "call:ReadAll", "call:Close", "if{", "return", "}", "if{", "call:isProviderUnavailable", "if{", "return", "}", "call:String", "call:Errorf", "return", "}", "call:Unmarshal", "if{", "return", "}", "return"] := rfl

end Sso.Validators
